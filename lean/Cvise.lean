import Cvise.Props.C01
import Cvise.Props.C02
import Cvise.Props.C03
import Cvise.Props.C04
import Cvise.Props.C05
import Cvise.Props.C06
import Cvise.Props.C07
import Cvise.Props.C08
import Cvise.Props.C09
import Cvise.Props.C10
import Cvise.Props.C11
import Cvise.Props.C12
import Cvise.Props.C13
import Cvise.Props.C14
import Cvise.Props.C15
import Cvise.Props.C16
import Cvise.Props.C17
import Cvise.Props.C18
import Cvise.Props.C19
import Cvise.Props.C20
