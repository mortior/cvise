import Cvise.Model.Driver
/-!
`--start-with-pass`, `skip_initial` and missing prerequisites (`runPassG`, `runPassesG`, `mainLoopG`, `reduceG`):
* without the option the gated driver *is* the plain driver on the passes whose prerequisites are there;
* while the option is pending, calls for other passes change nothing at all (files, table, statistics, log, round id);
* a prefix of passes without the named key is skipped (`runPassesG_prefix`); the first available pass with that key clears the
  option, and from there on the run is the plain one (`C16.start_gate_clears_at_named`);
* a relation between two results that two runs of any one pass preserve holds between two whole gated reductions
  (`reduceG_rel`); what one reduction preserves (`reduceG_lift`) and the plain driver (`reduce_rel`, `reduce_lift`) are instances.
-/
namespace Cvise.D
variable {C σ : Type} [DecidableEq C] [Inhabited σ] [Inhabited C]

theorem runPassesG_err (cfg : Cfg) (W : World C) (dn : Sched) (orderOf : List C → List Nat) (fuel : Nat) (avail : PassI C σ → Bool) :
    ∀ (ps : List (PassI C σ)) (e : Err × St C) (sw : Option Nat),
      runPassesG cfg W dn orderOf fuel avail ps (.inr e, sw) = (.inr e, sw) := by
  intro ps e sw
  cases ps <;> rfl

theorem runPasses_err (cfg : Cfg) (W : World C) (dn : Sched) (orderOf : List C → List Nat) (fuel : Nat) :
    ∀ (ps : List (PassI C σ)) (e : Err × St C), runPasses cfg W dn orderOf fuel ps (.inr e) = .inr e := by
  intro ps e
  cases ps <;> rfl

theorem runPassesG_none (cfg : Cfg) (W : World C) (dn : Sched) (orderOf : List C → List Nat) (fuel : Nat) (avail : PassI C σ → Bool) :
    ∀ (ps : List (PassI C σ)) (acc : LRes C),
      runPassesG cfg W dn orderOf fuel avail ps (acc, none) = (runPasses cfg W dn orderOf fuel (ps.filter avail) acc, none) := by
  intro ps
  induction ps with
  | nil => intro acc; rfl
  | cons P ps ih =>
    intro acc
    cases acc with
    | inr e =>
      rw [runPassesG_err, runPasses_err]
    | inl xr =>
      simp only [runPassesG]
      by_cases ha : avail P = true
      · simp only [ha, if_true, List.filter_cons_of_pos, runPassG, runPasses]
        exact ih _
      · simp only [ha]
        rw [List.filter_cons_of_neg ha]
        exact ih _

theorem mainLoopG_none (cfg : Cfg) (W : World C) (dn : Sched) (orderOf : List C → List Nat) (fuel : Nat) (avail : PassI C σ → Bool)
    (ps : List (PassI C σ)) : ∀ (rounds : Nat) (acc : LRes C),
      mainLoopG cfg W dn orderOf fuel avail ps rounds (acc, none) = (mainLoop cfg W dn orderOf fuel (ps.filter avail) rounds acc, none) := by
  intro rounds
  induction rounds with
  | zero => intro acc; rfl
  | succ n ih =>
    intro acc
    cases acc with
    | inr e => simp only [mainLoopG, mainLoop]
    | inl xr =>
      obtain ⟨x, rid⟩ := xr
      simp only [mainLoopG, mainLoop]
      split
      · rfl
      · rw [runPassesG_none]
        generalize runPasses cfg W dn orderOf fuel (ps.filter avail) (.inl (x, rid)) = r
        cases r with
        | inr e => rfl
        | inl yr =>
          simp only
          split
          · rfl
          · exact ih _

theorem reduceG_none (cfg : Cfg) (W : World C) (dn : Sched) (orderOf : List C → List Nat) (fuel : Nat) (avail : PassI C σ → Bool)
    (first main last : List (PassI C σ)) (x : St C) :
    reduceG cfg W dn orderOf fuel avail false first main last x none =
      (reduce cfg W dn orderOf fuel (first.filter avail) (main.filter avail) (last.filter avail) x, none) := by
  simp only [reduceG, reduce, Bool.false_eq_true, if_false]
  rw [runPassesG_none, mainLoopG_none, runPassesG_none]

/-- `skip_initial` only drops the first group -/
theorem reduceG_skipInitial (cfg : Cfg) (W : World C) (dn : Sched) (orderOf : List C → List Nat) (fuel : Nat) (avail : PassI C σ → Bool)
    (first main last : List (PassI C σ)) (x : St C) (sw : Option Nat) :
    reduceG cfg W dn orderOf fuel avail true first main last x sw = reduceG cfg W dn orderOf fuel avail false [] main last x sw := by
  simp only [reduceG, if_true, Bool.false_eq_true, if_false, runPassesG]

def NoneNamed (avail : PassI C σ → Bool) (n : Nat) (ps : List (PassI C σ)) : Prop := ∀ P ∈ ps, avail P = true → P.key ≠ n

/-- while the option is pending, a prefix without an available pass of that name is skipped: nothing changes -/
theorem runPassesG_prefix (cfg : Cfg) (W : World C) (dn : Sched) (orderOf : List C → List Nat) (fuel : Nat) (avail : PassI C σ → Bool)
    (n : Nat) (rest : List (PassI C σ)) (x : St C) (rid : Nat) :
    ∀ pre : List (PassI C σ), NoneNamed avail n pre →
      runPassesG cfg W dn orderOf fuel avail (pre ++ rest) (.inl (x, rid), some n) =
        runPassesG cfg W dn orderOf fuel avail rest (.inl (x, rid), some n) := by
  intro pre
  induction pre with
  | nil => intro _; rfl
  | cons Q pre ih =>
    intro h
    have ht := ih fun R hR => h R (List.mem_cons_of_mem _ hR)
    simp only [List.cons_append, runPassesG]
    by_cases hq : avail Q = true
    · have hne : ¬ n = Q.key := fun e => h Q List.mem_cons_self hq e.symm
      simp only [hq, if_true, runPassG, hne, if_false]
      exact ht
    · simp only [hq]
      exact ht

/-! A relation between two results that forces the same files (`LRes.Agree`: what the control flow of `runPasses`, `mainLoop`,
`reduce` looks at) and that two runs of any one pass preserve holds between two whole reductions — whatever else differs
(settings, schedule, fuel) — with or without `--start-with-pass`, `skip_initial`, missing prerequisites.  A property of one
reduction is the case of a relation that pins its second argument to the first. -/

/-- two results of the same kind (both normal, or both errors) with the same files if normal -/
def LRes.Agree : LRes C → LRes C → Prop
  | .inl (x, _), .inl (y, _) => x.disk = y.disk
  | .inr _, .inr _ => True
  | _, _ => False

omit [DecidableEq C] [Inhabited σ] [Inhabited C] in
theorem LRes.Agree.refl (r : LRes C) : LRes.Agree r r := by
  rcases r with ⟨x, a⟩ | e
  · exact rfl
  · trivial

section rel
variable {cfg cfg' : Cfg} {W : World C} {d d' : Sched} {orderOf : List C → List Nat} {fuel fuel' : Nat} {avail : PassI C σ → Bool}
  (R : LRes C → LRes C → Prop) (hR : ∀ r r', R r r' → LRes.Agree r r') (PS : PassI C σ → Prop)
  (hpass : ∀ P, PS P → ∀ x a y b, R (.inl (x, a)) (.inl (y, b)) →
    R (runPass cfg W d P (orderOf x.disk) fuel a x) (runPass cfg' W d' P (orderOf y.disk) fuel' b y))

/-- two gated outcomes: related results, the same option left -/
def GRel (p p' : LRes C × Option Nat) : Prop := R p.1 p'.1 ∧ p.2 = p'.2

include hR hpass

theorem runPassesG_rel : ∀ (ps : List (PassI C σ)), (∀ P ∈ ps, PS P) → ∀ p p', GRel R p p' →
    GRel R (runPassesG cfg W d orderOf fuel avail ps p) (runPassesG cfg' W d' orderOf fuel' avail ps p') := by
  intro ps
  induction ps with
  | nil => intro _ p p' h; exact h
  | cons P ps ih =>
    rintro hs ⟨r, sw⟩ ⟨r', _⟩ ⟨h, rfl⟩
    have ih := ih fun Q hQ => hs Q (List.mem_cons_of_mem _ hQ)
    have ha := hR r r' h
    rcases r with ⟨x, a⟩ | e <;> rcases r' with ⟨y, b⟩ | e' <;> try exact ha.elim
    · have hp := hpass P (hs P List.mem_cons_self) x a y b h
      simp only [runPassesG, runPassG]
      split
      · rcases sw with _ | n
        · exact ih _ _ ⟨hp, rfl⟩
        · dsimp only
          split
          · exact ih _ _ ⟨hp, rfl⟩
          · exact ih _ _ ⟨h, rfl⟩
      · exact ih _ _ ⟨h, rfl⟩
    · exact ⟨h, rfl⟩

theorem mainLoopG_rel (ps : List (PassI C σ)) (hs : ∀ P ∈ ps, PS P) : ∀ (rounds : Nat) p p', GRel R p p' →
    GRel R (mainLoopG cfg W d orderOf fuel avail ps rounds p) (mainLoopG cfg' W d' orderOf fuel' avail ps rounds p') := by
  intro rounds
  induction rounds with
  | zero => intro p p' h; exact h
  | succ n ih =>
    rintro ⟨r, sw⟩ ⟨r', _⟩ ⟨h, rfl⟩
    have ha := hR r r' h
    rcases r with ⟨x, a⟩ | e <;> rcases r' with ⟨y, b⟩ | e' <;> try exact ha.elim
    · simp only [mainLoopG]
      rw [show y.disk = x.disk from ha.symm]
      split
      · exact ⟨h, rfl⟩
      · have h2 := runPassesG_rel R hR PS hpass (avail := avail) ps hs _ _ ⟨h, rfl⟩
        generalize runPassesG cfg W d orderOf fuel avail ps (.inl (x, a), sw) = p at h2 ⊢
        generalize runPassesG cfg' W d' orderOf fuel' avail ps (.inl (y, b), sw) = p' at h2 ⊢
        obtain ⟨r, sw1⟩ := p
        obtain ⟨r', _⟩ := p'
        obtain ⟨h2, rfl⟩ := h2
        have ha2 := hR _ _ h2
        rcases r with ⟨x1, a1⟩ | e <;> rcases r' with ⟨y1, b1⟩ | e' <;> try exact ha2.elim
        · dsimp only
          rw [show y1.disk = x1.disk from ha2.symm]
          split
          · exact ⟨h2, rfl⟩
          · exact ih _ _ ⟨h2, rfl⟩
        · exact ⟨h2, rfl⟩
    · exact ⟨h, rfl⟩

theorem reduceG_rel (skip : Bool) (first main last : List (PassI C σ)) (hf : ∀ P ∈ first, PS P) (hm : ∀ P ∈ main, PS P)
    (hl : ∀ P ∈ last, PS P) (x : St C) (sw : Option Nat) (h : R (.inl (x, 0)) (.inl (x, 0))) :
    GRel R (reduceG cfg W d orderOf fuel avail skip first main last x sw)
      (reduceG cfg' W d' orderOf fuel' avail skip first main last x sw) := by
  refine runPassesG_rel R hR PS hpass last hl _ _ (mainLoopG_rel R hR PS hpass main hm _ _ _ ?_)
  split
  · exact ⟨h, rfl⟩
  · exact runPassesG_rel R hR PS hpass first hf _ _ ⟨h, rfl⟩

end rel

theorem filter_true {α : Type} (l : List α) : l.filter (fun _ => true) = l := List.filter_eq_self.mpr fun _ _ => rfl

theorem reduce_rel {cfg cfg' : Cfg} {W : World C} {d d' : Sched} {orderOf : List C → List Nat} {fuel fuel' : Nat}
    (R : LRes C → LRes C → Prop) (hR : ∀ r r', R r r' → LRes.Agree r r') (first main last : List (PassI C σ))
    (hpass : ∀ P, P ∈ first ∨ P ∈ main ∨ P ∈ last → ∀ x a y b, R (.inl (x, a)) (.inl (y, b)) →
      R (runPass cfg W d P (orderOf x.disk) fuel a x) (runPass cfg' W d' P (orderOf y.disk) fuel' b y))
    (x : St C) (h : R (.inl (x, 0)) (.inl (x, 0))) :
    R (reduce cfg W d orderOf fuel first main last x) (reduce cfg' W d' orderOf fuel' first main last x) := by
  -- the plain driver is the gated one without the option and with every pass available
  have := (reduceG_rel R hR _ hpass (avail := fun _ => true) false first main last (fun _ h => .inl h) (fun _ h => .inr (.inl h))
    (fun _ h => .inr (.inr h)) x none h).1
  rwa [reduceG_none, reduceG_none, filter_true, filter_true, filter_true] at this

theorem reduceG_lift (cfg : Cfg) (W : World C) (dn : Sched) (orderOf : List C → List Nat) (fuel : Nat) (avail : PassI C σ → Bool)
    (Q : LRes C → Prop)
    (hQ : ∀ (P : PassI C σ) order fuel rid x, Q (.inl (x, rid)) → Q (runPass cfg W dn P order fuel rid x))
    (skip : Bool) (first main last : List (PassI C σ)) (x : St C) (sw : Option Nat) (h : Q (.inl (x, 0))) :
    Q (reduceG cfg W dn orderOf fuel avail skip first main last x sw).1 :=
  (reduceG_rel (cfg' := cfg) (d' := dn) (fuel' := fuel) (fun r r' => Q r ∧ r' = r) (fun r _ h => h.2 ▸ .refl r) (fun _ => True)
    (fun P _ x a _ _ h => by cases h.2; exact ⟨hQ P _ fuel a x h.1, rfl⟩) skip first main last
    (fun _ _ => trivial) (fun _ _ => trivial) (fun _ _ => trivial) x sw ⟨h, rfl⟩).1.1

/-- the same for the plain driver -/
theorem reduce_lift (cfg : Cfg) (W : World C) (dn : Sched) (orderOf : List C → List Nat) (fuel : Nat) (Q : LRes C → Prop)
    (hQ : ∀ (P : PassI C σ) order fuel rid x, Q (.inl (x, rid)) → Q (runPass cfg W dn P order fuel rid x))
    (first main last : List (PassI C σ)) (x : St C) (h : Q (.inl (x, 0))) :
    Q (reduce cfg W dn orderOf fuel first main last x) := by
  have := reduceG_lift cfg W dn orderOf fuel (fun _ => true) Q hQ false first main last x none h
  rwa [reduceG_none, filter_true, filter_true, filter_true] at this

end Cvise.D
