import Cvise.Proofs.PassesBalOffers
/-! `ternary`: an OK candidate is a proper subsequence of the input (C07) and strictly shorter, hence at most `2·|s| + 2`
    candidates under every accept/reject history (C03). -/
namespace Cvise.P
open Cvise Cvise.M Cvise.D

theorem pairwise_getD {α : Type} {R : α → α → Prop} {l : List α} (h : l.Pairwise R) (d : α) {i j : Nat} (hij : i < j)
    (hj : j < l.length) : R (l.getD i d) (l.getD j d) := by
  rw [List.getD_eq_getElem?_getD, List.getD_eq_getElem?_getD, List.getElem?_eq_getElem (Nat.lt_trans hij hj),
    List.getElem?_eq_getElem hj]
  exact List.pairwise_iff_getElem.mp h i j _ _ hij

/-- holds of every cursor `ternary` reaches on `s` -/
def TernI (s : Text) (st : TernSt) : Prop := ∃ e, st.1 = (st.1.1, e) ∧ SeqMatch rxo s (Gen.ternaryParts.map (·.1)) st.1.1 e st.2

theorem ternSearch_spec (s : Text) (pos : Int) (st : TernSt) (h : ternSearch s pos = some st) : pos ≤ st.1.1 ∧ TernI s st := by
  obtain ⟨⟨a, e⟩, sp⟩ := st
  obtain ⟨_, j1, j2, _⟩ := C12.search_leftmost_engine Gen.rxTable _ s pos a e sp h
  exact ⟨j1, e, rfl, j2⟩

theorem tern_idx : partIdx Gen.ternaryParts "del1" = 0 ∧ partIdx Gen.ternaryParts "b" = 3 ∧ partIdx Gen.ternaryParts "c" = 5 ∧
    partIdx Gen.ternaryParts "del2" = 6 ∧ (Gen.ternaryParts.map (·.1)).length = 7 := by decide +kernel

/-- the candidate `ternTransformLoop` builds at a cursor -/
def ternEdit (arg : String) (s : Text) (st : TernSt) : Text :=
  let sp (n : String) : Span := st.2.getD (partIdx Gen.ternaryParts n) (0, 0)
  s.take (sp "del1").2 ++ (s.take (sp arg).2).drop (sp arg).1 ++ s.drop (sp "del2").1

theorem ternLoop_ok (arg : String) (s : Text) : ∀ (fuel : Nat) (st : TernSt) (out : Text) (st' : TernSt),
    ternTransformLoop arg s fuel st = (.ok, out, st') →
    out = ternEdit arg s st' ∧ out ≠ s ∧ st.1.1 ≤ st'.1.1 ∧ (TernI s st → TernI s st') := by
  intro fuel
  induction fuel with
  | zero => intro st out st' h; cases h
  | succ f ih =>
    intro st out st' h
    simp only [ternTransformLoop] at h
    split at h
    · rename_i hne
      cases h
      exact ⟨rfl, hne, Nat.le_refl _, id⟩
    · split at h
      · cases h
      · rename_i st1 hf
        obtain ⟨p1, p2⟩ := ternSearch_spec s _ st1 hf
        obtain ⟨i1, i2, i3, i4⟩ := ih st1 out st' h
        exact ⟨i1, i2, by omega, fun _ => i4 p2⟩

/-- at a cursor the search returned, the edit keeps one operand between the two border characters: a subsequence -/
theorem ternEdit_sublist (arg : String) (harg : arg = "b" ∨ arg = "c") (s : Text) (st : TernSt) (hI : TernI s st) :
    (ternEdit arg s st).Sublist s := by
  obtain ⟨e, _, hsm⟩ := hI
  obtain ⟨hlen, -, hpw⟩ := seqMatch_spans rxo (rxOracle_contract Gen.rxTable) s hsm
  obtain ⟨i0, i3, i5, i6, i7⟩ := tern_idx
  have le {i j : Nat} (h : i < j) (hj : j < 7) := pairwise_getD hpw (0, 0) h (hlen ▸ i7 ▸ hj)
  -- `del1` and `del2` are the first and the last of the seven spans, the operand lies between them
  obtain ⟨k, hk, h0, h6⟩ : ∃ k, partIdx Gen.ternaryParts arg = k ∧ 0 < k ∧ k < 6 := by
    rcases harg with rfl | rfl
    · exact ⟨3, i3, by decide, by decide⟩
    · exact ⟨5, i5, by decide, by decide⟩
  unfold ternEdit
  simp only [i0, hk, i6]
  exact splice_sublist s _ _ _ (le (by decide) (by decide))
    (slice_sublist_slice s _ _ _ _ (le h0 (Nat.lt_succ_of_lt h6)) (le h6 (by decide)))

theorem ternI_start_le (s : Text) (st : TernSt) (h : TernI s st) : st.1.1 ≤ s.length := by
  obtain ⟨e, _, hsm⟩ := h
  obtain ⟨m, hm⟩ := seqMatch_head (show SeqMatch rxo s (_ :: _) _ _ _ from hsm)
  have := patSpec_bounds rxo (rxOracle_contract Gen.rxTable) _ s _ m hm
  omega

theorem ternary_sublist (arg : String) (harg : arg = "b" ∨ arg = "c") (s : Text) (st : TernSt) (hI : TernI s st)
    (out : Text) (st' : TernSt) (h : (ternary arg).transform s st = (.ok, out, st')) : out.Sublist s ∧ out ≠ s := by
  obtain ⟨l1, l2, _, l4⟩ := ternLoop_ok arg s _ st out st' h
  exact ⟨l1 ▸ ternEdit_sublist arg harg s st' (l4 hI), l2⟩

def ternMu (s : Text) (st : TernSt) : Nat := 2 * s.length + 1 - st.1.1

-- `irreducible`: to see that `((ternary arg).toI key maxT).transform s st` is `(ternary arg).transform s st`, unification would
-- otherwise unfold the loop, whose fuel `|s| + 2` is a successor, on both sides
attribute [local irreducible] ternSearch ternTransformLoop in
theorem ternary_measured (arg : String) (harg : arg = "b" ∨ arg = "c") (key : Nat) (maxT : Option Nat) :
    Measured ((ternary arg).toI key maxT) TernI ternMu where
  newI := fun s st h => (ternSearch_spec s 0 st h).2
  advI := fun s st st' _ h => (ternSearch_spec s _ st' h).2
  accI := fun s st s2 st2 st' _ _ h => (ternSearch_spec s2 _ st' h).2
  adv := by
    intro s st st' hI h
    have sp := ternSearch_spec s _ st' h
    have := ternI_start_le s st' sp.2
    show 2 * _ + 1 - _ < 2 * _ + 1 - _
    omega
  acc := by
    intro s st s2 st2 st' hI htr h
    have sp := ternSearch_spec s2 _ st' h
    have hc := ternary_sublist arg harg s st hI s2 st2 htr
    have := sublist_ne_length_lt hc.1 hc.2
    have := ternI_start_le s2 st' sp.2
    have := (ternLoop_ok arg s _ st s2 st2 htr).2.2.1
    show 2 * _ + 1 - _ < 2 * _ + 1 - _
    omega

theorem ternary_bound (arg : String) (harg : arg = "b" ∨ arg = "c") (hist : List Bool) (s : Text) (st : TernSt)
    (hnew : (ternary arg).new s = some st) :
    (runHistory (ternary arg) hist s (some st) []).1.length ≤ 2 * s.length + 2 := by
  have key := drive_bound_measured (ternary arg) 0 none TernI ternMu (ternary_measured arg harg 0 none) hist s st []
    (ternSearch_spec s 0 st hnew).2
  have : ternMu s st ≤ 2 * s.length + 1 := Nat.sub_le _ _
  simp only [List.length_nil] at key
  omega

end Cvise.P
