import Cvise.Model.Passes
/-! line-oriented passes: `readlines` splits without loss, and removing lines yields a proper subsequence -/
namespace Cvise.P
open Cvise Cvise.M Cvise.D

/-- what the `readlines` loop adds to the lines it has: lines, none of them empty, that together are the pending characters
    and the rest of the input -/
theorem splitLines_go_spec : ∀ (s cur : Text) (acc : List Text),
    ∃ L, splitLines.go s cur acc = acc.reverse ++ L ∧ L.flatten = cur.reverse ++ s ∧ ∀ l ∈ L, l ≠ [] := by
  intro s
  induction s with
  | nil =>
    intro cur acc
    rw [splitLines.go]
    cases cur with
    | nil => exact ⟨[], by simp, rfl, nofun⟩
    | cons c cur => exact ⟨[(c :: cur).reverse], by simp, by simp, by simp⟩
  | cons c cs ih =>
    intro cur acc
    rw [splitLines.go]
    split
    · obtain ⟨L, h1, h2, h3⟩ := ih [] ((c :: cur).reverse :: acc)
      exact ⟨(c :: cur).reverse :: L, by rw [h1]; simp, by simp [h2], by simpa using h3⟩
    · obtain ⟨L, h1, h2, h3⟩ := ih (c :: cur) acc
      exact ⟨L, h1, by simp [h2], h3⟩

theorem splitLines_spec (s : Text) : (splitLines s).flatten = s ∧ ∀ l ∈ splitLines s, l ≠ [] := by
  cases s with
  | nil => exact ⟨rfl, nofun⟩
  | cons c cs =>
    obtain ⟨L, h1, h2, h3⟩ := splitLines_go_spec (c :: cs) [] []
    rw [splitLines, h1]
    · exact ⟨h2, h3⟩
    · nofun

/-- `''.join(f.readlines()) == f.read()` -/
theorem splitLines_flatten (s : Text) : (splitLines s).flatten = s := (splitLines_spec s).1

theorem splitLines_nonempty (s : Text) : ∀ l ∈ splitLines s, l ≠ [] := (splitLines_spec s).2

/-- leaving out `k` of the lists gives a subsequence of the concatenation; if none of the lists is empty it is shorter by at
    least `k` -/
theorem flatten_sublist {α : Type} : ∀ {a b : List (List α)}, a.Sublist b → a.flatten.Sublist b.flatten ∧
    ((∀ l ∈ b, l ≠ []) → a.flatten.length + b.length ≤ b.flatten.length + a.length) := by
  intro a b h
  induction h with
  | slnil => exact ⟨.refl _, fun _ => Nat.le_refl _⟩
  | @cons _ _ x _ ih =>
    refine ⟨ih.1.trans (List.sublist_append_right _ _), fun hne => ?_⟩
    have : 0 < x.length := List.length_pos_iff.mpr (hne x List.mem_cons_self)
    have := ih.2 fun l hl => hne l (List.mem_cons_of_mem _ hl)
    simp only [List.flatten_cons, List.length_append, List.length_cons]
    omega
  | @cons_cons _ _ x _ ih =>
    refine ⟨(List.Sublist.refl x).append ih.1, fun hne => ?_⟩
    have := ih.2 fun l hl => hne l (List.mem_cons_of_mem _ hl)
    simp only [List.flatten_cons, List.length_append, List.length_cons]
    omega

theorem lines_le_length (s : Text) : (splitLines s).length ≤ s.length := by
  have := (flatten_sublist (List.nil_sublist _)).2 (splitLines_nonempty s)
  rw [splitLines_flatten] at this
  simpa using this

theorem lines_removed (s : Text) (kept : List Text) (hs : kept.Sublist (splitLines s)) (hl : kept.length < (splitLines s).length) :
    kept.flatten.Sublist s ∧ kept.flatten ≠ s := by
  have h1 := (flatten_sublist hs).1
  rw [splitLines_flatten] at h1
  refine ⟨h1, ?_⟩
  intro heq
  have := (flatten_sublist hs).2 (splitLines_nonempty s)
  rw [splitLines_flatten, heq] at this
  omega

theorem removeNth_sublist (id : Nat) : ∀ (ls : List Text) (n : Nat) (r : List Text), removeNth id ls n = some r →
    r.Sublist ls ∧ r.length + 1 = ls.length ∧ n ≤ ls.length := by
  intro ls
  induction ls with
  | nil => intro n r h; simp [removeNth] at h
  | cons l ls ih =>
    intro n r h
    simp only [removeNth] at h
    split at h
    · split at h
      · rename_i h1; cases h; exact ⟨List.sublist_cons_self _ _, rfl, by simp [h1]⟩
      · simp only [Option.map_eq_some_iff] at h
        obtain ⟨r', hr', rfl⟩ := h
        obtain ⟨h1, h2, h3⟩ := ih _ _ hr'
        exact ⟨List.Sublist.cons_cons _ h1, by simp; omega, by simp; omega⟩
    · simp only [Option.map_eq_some_iff] at h
      obtain ⟨r', hr', rfl⟩ := h
      obtain ⟨h1, h2, h3⟩ := ih _ _ hr'
      exact ⟨List.Sublist.cons_cons _ h1, by simp; omega, by simp; omega⟩

/-- IncludesPass: an OK candidate is the file minus exactly one whole line (`removeNth_sublist`) -/
theorem includes_candidate (s : Text) (st : Nat) (out : Text) (st' : Nat)
    (h : includes.transform s st = (.ok, out, st')) : out.Sublist s ∧ out ≠ s := by
  simp only [includes] at h
  split at h
  · simp at h
  · split at h
    · rename_i ls hls
      cases h
      obtain ⟨h1, h2, -⟩ := removeNth_sublist _ _ _ _ hls
      exact lines_removed s ls h1 (by omega)
    · simp at h

theorem dropMarkers_cons (id lo hi : Nat) (l : Text) (ls : List Text) (i : Nat) :
    dropMarkers id lo hi (l :: ls) i =
      if lineSearches id l then (if i < lo ∨ i ≥ hi then [l] else []) ++ dropMarkers id lo hi ls (i + 1)
      else l :: dropMarkers id lo hi ls i := rfl

theorem dropMarkers_shift (id : Nat) : ∀ (ls : List Text) (lo hi i : Nat),
    dropMarkers id lo hi ls (i + 1) = dropMarkers id (lo - 1) (hi - 1) ls i := by
  intro ls
  induction ls with
  | nil => intro lo hi i; rfl
  | cons l rest ih =>
    intro lo hi i
    have : (i + 1 < lo ∨ i + 1 ≥ hi) ↔ (i < lo - 1 ∨ i ≥ hi - 1) := by omega
    rw [dropMarkers_cons, dropMarkers_cons]
    by_cases hm : lineSearches id l = true
    · rw [if_pos hm, if_pos hm, ih lo hi (i + 1)]
      simp only [this]
    · rw [if_neg hm, if_neg hm, ih lo hi i]

/-- stated at index 0 and without subtraction: `dropMarkers_shift` moves the window instead of the index, and the
    arithmetic stays linear -/
theorem dropMarkers_spec (id : Nat) : ∀ (ls : List Text) (lo hi : Nat), lo ≤ hi → hi ≤ (ls.filter (lineSearches id)).length →
    (dropMarkers id lo hi ls 0).Sublist ls ∧
    (dropMarkers id lo hi ls 0).filter (fun l => !lineSearches id l) = ls.filter (fun l => !lineSearches id l) ∧
    (dropMarkers id lo hi ls 0).length + hi = ls.length + lo := by
  intro ls
  induction ls with
  | nil =>
    intro lo hi h1 h2
    simp only [List.filter_nil, List.length_nil] at h2
    exact ⟨List.Sublist.refl _, rfl, by simp only [dropMarkers, List.length_nil]; omega⟩
  | cons l rest ih =>
    intro lo hi hlh hhi
    rw [dropMarkers_cons]
    by_cases hm : lineSearches id l = true
    · rw [List.filter_cons_of_pos hm, List.length_cons] at hhi
      obtain ⟨h1, h2, h3⟩ := ih (lo - 1) (hi - 1) (by omega) (by omega)
      rw [if_pos hm, dropMarkers_shift, List.filter_cons_of_neg (by simp [hm])]
      by_cases hin : 0 < lo ∨ 0 ≥ hi
      · rw [if_pos hin, List.singleton_append, List.filter_cons_of_neg (by simp [hm]), List.length_cons, List.length_cons]
        exact ⟨h1.cons_cons l, h2, by omega⟩
      · rw [if_neg hin, List.nil_append, List.length_cons]
        exact ⟨h1.cons l, h2, by omega⟩
    · rw [List.filter_cons_of_neg hm] at hhi
      obtain ⟨h1, h2, h3⟩ := ih lo hi hlh hhi
      rw [if_neg hm, List.filter_cons_of_pos (by simp [hm]), List.filter_cons_of_pos (by simp [hm]), h2, List.length_cons,
        List.length_cons]
      exact ⟨h1.cons_cons l, rfl, by omega⟩

theorem line_markers_candidate (s : Text) (st : BS) (h : st.Inv) (hn : st.instances = markerCount Gen.lineMarkersRx s) :
    let kept := dropMarkers Gen.lineMarkersRx st.index st.end_ (splitLines s) 0
    let out := (lineMarkers.transform s st).2.1
    out = kept.flatten ∧ out.Sublist s ∧ out ≠ s ∧
    kept.filter (fun l => !lineSearches Gen.lineMarkersRx l) = (splitLines s).filter (fun l => !lineSearches Gen.lineMarkersRx l) ∧
    kept.length + (st.end_ - st.index) = (splitLines s).length := by
  have hlt := h.index_lt_end
  have hend : st.end_ ≤ markerCount Gen.lineMarkersRx s := hn ▸ st.end_le
  obtain ⟨h1, h2, h3⟩ := dropMarkers_spec Gen.lineMarkersRx (splitLines s) st.index st.end_ (Nat.le_of_lt hlt) hend
  have := lines_removed s _ h1 (by omega)
  exact ⟨rfl, this.1, this.2, h2, by omega⟩

end Cvise.P
