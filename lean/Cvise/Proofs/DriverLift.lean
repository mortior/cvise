import Cvise.Proofs.DriverRound
/-! Lifting: from one round to the rounds on one file and to a pass run (for properties of the side state, and for relations
    between two pass runs).  `DriverGate` lifts from pass runs to whole reductions. -/
namespace Cvise.D
variable {C σ : Type} [DecidableEq C] [Inhabited σ] [Inhabited C]

def LRes.st : LRes C → St C
  | .inl (x, _) => x
  | .inr (_, x) => x

def LRes.st' : LRes C → St C
  | .inl (x, _) => x
  | .inr (_, x) => x

omit [DecidableEq C] [Inhabited σ] [Inhabited C] in
theorem LRes.st'_eq (r : LRes C) : LRes.st' r = LRes.st r := rfl

section fmt
omit [Inhabited σ] [Inhabited C]

theorem fmtStep_frame (W : World C) (P : PassI C σ) (x : St C) (k : Nat) (before : C) :
    (fmtStep W P x k before).1.side = x.side ∧ (fmtStep W P x k before).1.cache = x.cache ∧
    (fmtStep W P x k before).1.leftover = x.leftover := by
  unfold fmtStep
  split
  · exact ⟨rfl, rfl, rfl⟩
  · split <;> exact ⟨rfl, rfl, rfl⟩

theorem fmtStep_disk (W : World C) (P : PassI C σ) (x : St C) (k : Nat) (before : C) :
    (fmtStep W P x k before).1.disk = x.disk ∨
    ∃ c, (fmtStep W P x k before).1.disk = x.disk.set k c ∧ W.test (x.disk.set k c) = .code 0 := by
  unfold fmtStep
  split
  · exact Or.inl rfl
  · split
    · rename_i c' hf
      right
      refine ⟨c', rfl, ?_⟩
      simpa using List.find?_some hf
    · exact Or.inl rfl

theorem fmtStep_congr (W : World C) (P : PassI C σ) (x y : St C) (k : Nat) (before : C) (h : x.disk = y.disk) :
    (fmtStep W P x k before).2 = (fmtStep W P y k before).2 ∧ (fmtStep W P x k before).1.disk = (fmtStep W P y k before).1.disk := by
  unfold fmtStep
  rw [h]
  split
  · exact ⟨rfl, h⟩
  · split
    · exact ⟨rfl, rfl⟩
    · exact ⟨rfl, h⟩

end fmt

/-- what `fileLoop` does after a commit: growth bail-out, end of the enumeration, a limit, or the next round -/
def afterCommit (cfg : Cfg) (W : World C) (P : PassI C σ) (startSize : Nat) (next : Nat → σ → Nat → St C → LRes C)
    (rid succ : Nat) (e : EnvRes C σ) (x : St C) : LRes C :=
  if W.size e.cand ≥ cfg.growth * startSize then .inl ({ x with leftover := !cfg.releaseBeforeBail }, rid + 1)
  else
    match P.aos e.cand e.st with
    | none => .inl (x, rid + 1)
    | some s' =>
      if limitHit cfg.skipN (succ + 1) || limitHit P.maxT (succ + 1) then .inl (x, rid + 1)
      else next (rid + 1) s' (succ + 1) x

/-- `process_result` for the winner `e` of a round on file `k` that ended with side state `g` -/
def commitWinner (P : PassI C σ) (x : St C) (k : Nat) (e : EnvRes C σ) (g : Side C) : St C :=
  let tested := match e.exit with
    | some ex => [Ev.tested (x.disk.set k e.cand) ex]
    | none => []
  commitSt x k e.cand { g with worked := bump g.worked g.curPass, log := g.log ++ tested ++ [.commit P.key k e.cand] }

theorem fileLoop_succ (cfg : Cfg) (W : World C) (dn : Sched) (P : PassI C σ) (k startSize fuel rid : Nat) (s : σ) (succ : Nat)
    (x : St C) :
    fileLoop cfg W dn P k startSize (fuel + 1) rid s succ x =
      if x.leftover then .inr (.assertion, x) else
      match roundLoop cfg W.size P.key (x.disk.getD k default) (envOf W P x.disk k (x.disk.getD k default) s rid)
          (fun t => (nthState P (x.disk.getD k default) s t).isSome) (dn rid) (cfg.giveup + 1000) 0 [] x.side {} with
      | .inr (e, g) => .inr (e, { x with side := g })
      | .inl (none, g) => .inl ({ x with side := g }, rid + 1)
      | .inl (some i, g) => afterCommit cfg W P startSize (fileLoop cfg W dn P k startSize fuel) rid succ
          (envOf W P x.disk k (x.disk.getD k default) s rid i)
          (commitWinner P x k (envOf W P x.disk k (x.disk.getD k default) s rid i) g) := by
  rfl

omit [DecidableEq C] [Inhabited σ] [Inhabited C] in
theorem afterCommit_rel {cfg cfg' : Cfg} {W : World C} {P : PassI C σ} {startSize : Nat} {R : LRes C → LRes C → Prop}
    {next next' : Nat → σ → Nat → St C → LRes C} {rid rid' succ : Nat} {e : EnvRes C σ} {x y : St C}
    (hg : cfg'.growth = cfg.growth) (hb : cfg'.releaseBeforeBail = cfg.releaseBeforeBail) (hk : cfg'.skipN = cfg.skipN)
    (hbail : R (.inl ({ x with leftover := !cfg.releaseBeforeBail }, rid + 1))
      (.inl ({ y with leftover := !cfg.releaseBeforeBail }, rid' + 1)))
    (hstay : R (.inl (x, rid + 1)) (.inl (y, rid' + 1)))
    (hnext : ∀ s', P.aos e.cand e.st = some s' → (limitHit cfg.skipN (succ + 1) || limitHit P.maxT (succ + 1)) = false →
      R (next (rid + 1) s' (succ + 1) x) (next' (rid' + 1) s' (succ + 1) y)) :
    R (afterCommit cfg W P startSize next rid succ e x) (afterCommit cfg' W P startSize next' rid' succ e y) := by
  unfold afterCommit
  rw [hg, hb, hk]
  split
  · exact hbail
  · split
    · exact hstay
    · split
      · exact hstay
      · exact hnext _ ‹_› (Bool.eq_false_iff.mpr ‹_›)

omit [DecidableEq C] [Inhabited σ] [Inhabited C] in
theorem afterCommit_elim {cfg : Cfg} {W : World C} {P : PassI C σ} {startSize : Nat} {Q : LRes C → Prop}
    {next : Nat → σ → Nat → St C → LRes C} {rid succ : Nat} {e : EnvRes C σ} {x : St C}
    (hbail : Q (.inl ({ x with leftover := !cfg.releaseBeforeBail }, rid + 1))) (hstay : Q (.inl (x, rid + 1)))
    (hnext : ∀ s', P.aos e.cand e.st = some s' → (limitHit cfg.skipN (succ + 1) || limitHit P.maxT (succ + 1)) = false →
      Q (next (rid + 1) s' (succ + 1) x)) : Q (afterCommit cfg W P startSize next rid succ e x) :=
  afterCommit_rel (R := fun r _ => Q r) (y := x) (next' := next) (rid' := rid) rfl rfl rfl hbail hstay hnext

/-- the rounds on one file: `J` sees the number of accepted steps too, and a commit may assume that the loop was still going
    at that number: it is the number the loop started with (`succ0`), or one that passed the limit tests -/
theorem fileLoop_inv {cfg : Cfg} {W : World C} {P : PassI C σ} (J : Nat → Side C → Prop) (succ0 : Nat)
    (hround : ∀ cur (env : Nat → EnvRes C σ) more done fuel n g, J n g →
      J n (RRes.side (roundLoop cfg W.size P.key cur env more done fuel 0 [] g {})))
    (hcommit : ∀ n g tested k c, (∀ e ∈ tested, ∃ d x, e = Ev.tested d x) →
      n = succ0 ∨ (limitHit cfg.skipN n || limitHit P.maxT n) = false → J n g →
      J (n + 1) { g with worked := bump g.worked g.curPass, log := g.log ++ tested ++ [.commit P.key k c] })
    (dn : Sched) (k startSize : Nat) :
    ∀ (fuel rid : Nat) (s : σ) (succ : Nat) (x : St C),
      succ = succ0 ∨ (limitHit cfg.skipN succ || limitHit P.maxT succ) = false → J succ x.side →
      ∃ n, J n (LRes.st (fileLoop cfg W dn P k startSize fuel rid s succ x)).side := by
  intro fuel
  induction fuel with
  | zero => intro rid s succ x _ hx; exact ⟨succ, hx⟩
  | succ f ih =>
    intro rid s succ x hl hx
    rw [fileLoop_succ]
    split
    · exact ⟨succ, hx⟩
    · have hr := hround (x.disk.getD k default) (envOf W P x.disk k (x.disk.getD k default) s rid)
        (fun t => (nthState P (x.disk.getD k default) s t).isSome) (dn rid) (cfg.giveup + 1000) succ x.side hx
      split
      · rename_i h; rw [h] at hr; exact ⟨succ, hr⟩
      · rename_i h; rw [h] at hr; exact ⟨succ, hr⟩
      · rename_i i g h
        rw [h] at hr
        have hc : J (succ + 1) (commitWinner P x k (envOf W P x.disk k (x.disk.getD k default) s rid i) g).side :=
          hcommit _ g _ k _ (by intro e he; split at he <;> simp at he; exact ⟨_, _, he⟩) hl hr
        exact afterCommit_elim (Q := fun r => ∃ n, J n (LRes.st r).side) ⟨_, hc⟩ ⟨_, hc⟩
          fun s' _ hlim => ih (rid + 1) s' (succ + 1) _ (.inr hlim) hc

/-- `run_pass` enters with no futures left over and the pass as the current one -/
def St.enter (x : St C) (P : PassI C σ) : St C := { x with leftover := false, side := { x.side with curPass := P.key } }

theorem runPass_rel {cfg cfg' : Cfg} {W : World C} {d d' : Sched} {fuel fuel' : Nat} (R : LRes C → LRes C → Prop)
    (P : PassI C σ) (order : List Nat) (a b : Nat) (x y : St C)
    (hd : totalSize W.size x.disk = totalSize W.size y.disk)
    (hz : R (.inr (.zeroSize, x.enter P)) (.inr (.zeroSize, y.enter P)))
    (hs : R (.inl (x.enter P, a)) (.inl (y.enter P, b)))
    (hstep : ∀ r r', ∀ k ∈ order, R r r' → R (fileStep cfg W d P fuel r k) (fileStep cfg' W d' P fuel' r' k)) :
    R (runPass cfg W d P order fuel a x) (runPass cfg' W d' P order fuel' b y) := by
  unfold runPass
  dsimp only
  rw [← hd]
  split
  · exact hz
  · suffices h : ∀ r r', R r r' → R (order.foldl (fileStep cfg W d P fuel) r) (order.foldl (fileStep cfg' W d' P fuel') r') from
      h _ _ hs
    induction order with
    | nil => intro r r' h; exact h
    | cons k ks ih =>
      intro r r' h
      exact ih (fun r r' k hk => hstep r r' k (List.mem_cons_of_mem _ hk)) _ _ (hstep r r' k List.mem_cons_self h)

theorem runPass_lift {cfg : Cfg} {W : World C} {d : Sched} {fuel : Nat} (Q : LRes C → Prop) (P : PassI C σ) (order : List Nat)
    (a : Nat) (x : St C) (hz : Q (.inr (.zeroSize, x.enter P))) (hs : Q (.inl (x.enter P, a)))
    (hstep : ∀ r, ∀ k ∈ order, Q r → Q (fileStep cfg W d P fuel r k)) : Q (runPass cfg W d P order fuel a x) :=
  runPass_rel (cfg' := cfg) (d' := d) (fuel' := fuel) (fun r _ => Q r) P order a a x x rfl hz hs (fun r _ k hk h => hstep r k hk h)

/-- what a pass run does to the side state between rounds -/
inductive PassStep (key : Nat) : Side C → Side C → Prop
  | commit (g : Side C) (tested : List (Ev C)) (k : Nat) (c : C) : (∀ e ∈ tested, ∃ d x, e = Ev.tested d x) →
      PassStep key g { g with worked := bump g.worked g.curPass, log := g.log ++ tested ++ [.commit key k c] }
  | replay (g : Side C) (k : Nat) (c : C) : PassStep key g { g with log := g.log ++ [.replay key k c] }

section side
variable {cfg : Cfg} {W : World C} {P : PassI C σ} (I : Side C → Prop)
  (hround : ∀ cur (env : Nat → EnvRes C σ) more done fuel g, I g →
    I (RRes.side (roundLoop cfg W.size P.key cur env more done fuel 0 [] g {})))
  (hstep : ∀ g g', PassStep P.key g g' → I g → I g')
include hround hstep

theorem fileStep_side_inv (dn : Sched) (fuel : Nat) (acc : LRes C) (k : Nat) (h : I (LRes.st acc).side) :
    I (LRes.st (fileStep cfg W dn P fuel acc k)).side := by
  unfold fileStep
  rcases acc with ⟨x, rid⟩ | e
  · dsimp only
    -- `by_cases` + `rw`, not `split`: `split` abstracts the whole rest of `fileStep` under the size test, which is dear
    by_cases hz : W.size (x.disk.getD k default) = 0
    · rw [if_pos hz]; exact h
    · rw [if_neg hz]
      split
      · exact hstep _ _ (.replay ..) h
      · have hn : I (LRes.st (newLoop cfg W dn P k fuel rid x (x.disk.getD k default))).side := by
          have hf : I (fmtStep W P x k (x.disk.getD k default)).1.side := by rw [(fmtStep_frame W P x k _).1]; exact h
          unfold newLoop
          split
          · exact hf
          · split
            · exact hf
            · obtain ⟨_, h⟩ := fileLoop_inv (fun _ => I) 0 (fun cur env more done fuel _ => hround cur env more done fuel)
                (fun _ g tested k c hT _ => hstep _ _ (.commit g tested k c hT)) dn k _ fuel rid _ 0 _ (.inl rfl) hf
              exact h
        generalize newLoop cfg W dn P k fuel rid x (x.disk.getD k default) = r at hn ⊢
        rcases r with ⟨y, rid'⟩ | e
        · dsimp only; split <;> exact hn
        · exact hn
  · exact h

theorem runPass_side_inv (dn : Sched) (order : List Nat) (fuel rid : Nat) (x : St C)
    (hx : I { x.side with curPass := P.key }) : I (LRes.st (runPass cfg W dn P order fuel rid x)).side :=
  runPass_lift (fun r => I (LRes.st r).side) P order rid x hx hx (fun r k _ h => fileStep_side_inv I hround hstep dn fuel r k h)

end side

end Cvise.D
