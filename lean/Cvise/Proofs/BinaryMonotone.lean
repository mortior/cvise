import Cvise.Proofs.BinaryMoves
/-! C06, monotone case: with a test that asks for a required subset, the invariant `J` (at chunk 1 the part before the cursor
    is required) is kept by both moves, and a completed run returns exactly the required elements. -/
namespace Cvise
variable {α : Type} [DecidableEq α]

def reqTest (R : List α) (l : List α) : Bool := R.all (fun r => decide (r ∈ l))

theorem reqTest_true {R c : List α} (h : reqTest R c = true) : ∀ r ∈ R, r ∈ c := by
  simpa [reqTest] using h

theorem reqTest_false {R c : List α} (h : reqTest R c = false) : ∃ r ∈ R, r ∉ c := by
  simpa [reqTest] using h

structure J (items0 R : List α) (x : St α) : Prop where
  inv : x.Inv
  sub : x.items.Sublist items0
  req : ∀ r ∈ R, r ∈ x.items
  pre : x.st.chunk = 1 → ∀ a ∈ x.items.take x.st.index, a ∈ R

structure Done (items0 R : List α) (r : List α) : Prop where
  sub : r.Sublist items0
  req : ∀ a ∈ R, a ∈ r
  only : ∀ a ∈ r, a ∈ R

variable {items0 R : List α} {x : St α}

omit [DecidableEq α] in
theorem J.fresh {c : List α} (hs : c.Sublist items0) (hR : ∀ r ∈ R, r ∈ c) (h : c.length ≠ 0) : J items0 R (St.fresh c) :=
  ⟨St.fresh_inv h, hs, hR, fun _ _ ha => absurd ha List.not_mem_nil⟩

omit [DecidableEq α] in
theorem Done.nil {c : List α} (hs : c.Sublist items0) (hR : ∀ r ∈ R, r ∈ c) (h : c.length = 0) : Done items0 R c :=
  ⟨hs, hR, fun _ ha => by rw [List.eq_nil_of_length_eq_zero h] at ha; exact absurd ha List.not_mem_nil⟩

theorem J.accept (hJ : J items0 R x) (ht : reqTest R x.cand = true) :
    Sum.elim (J items0 R) (Done items0 R) x.accept := by
  have hsub := (cand_sublist x hJ.inv).trans hJ.sub
  refine x.accept_elim hJ.inv (fun y hy hi hc => ⟨hy, hi ▸ hsub, hi ▸ reqTest_true ht, fun hc1 a ha => ?_⟩) (fun h => ?_)
  · -- the part before the cursor is the old one, or empty
    rcases hc with ⟨h1, h2⟩ | ⟨_, h2, _⟩
    · rw [hi, h2, cand_take x hJ.inv] at ha
      exact hJ.pre (h1 ▸ hc1) a ha
    · rw [h2] at ha
      exact absurd ha List.not_mem_nil
  · -- nothing is left, or the cursor is behind all that is left
    rcases h with h0 | ⟨h1, h2⟩
    · exact Done.nil hsub (reqTest_true ht) h0
    · refine ⟨hsub, reqTest_true ht, fun a ha => hJ.pre h1 a ?_⟩
      rwa [← cand_take x hJ.inv, List.take_of_length_le h2]

theorem J.upto (hJ : J items0 R x) (ht : reqTest R x.cand = false) (hc : x.st.chunk = 1) :
    ∀ a ∈ x.items.take (x.st.index + 1), a ∈ R := by
  obtain ⟨r, hr, hnot⟩ := reqTest_false ht
  have hlt := hJ.inv.index_lt
  intro a ha
  rw [List.take_succ_eq_append_getElem hlt, List.mem_append, List.mem_singleton] at ha
  rcases ha with ha | rfl
  · exact hJ.pre hc a ha
  · -- `r` is in the list and not in the candidate, so it is the element cut out
    obtain ⟨i, hi, rfl⟩ := List.mem_iff_getElem.mp (hJ.req r hr)
    rw [cand_single x hJ.inv hc, List.mem_eraseIdx_iff_getElem] at hnot
    by_cases h : i = x.st.index
    · subst h
      exact hr
    · exact absurd ⟨i, hi, h, rfl⟩ hnot

theorem J.reject (hJ : J items0 R x) (ht : reqTest R x.cand = false) :
    Sum.elim (J items0 R) (Done items0 R) x.reject := by
  refine x.reject_elim hJ.inv (fun y hy hi hc => ⟨hy, hi ▸ hJ.sub, hi ▸ hJ.req, fun hc1 a ha => ?_⟩)
    (fun hc hi => ⟨hJ.sub, hJ.req, fun a ha => hJ.upto ht hc a ?_⟩)
  · rcases hc with ⟨h1, h2⟩ | ⟨_, h2, _⟩
    · have hc : x.st.chunk = 1 := h1 ▸ hc1
      rw [hi, h2, hc] at ha
      exact hJ.upto ht hc a ha
    · rw [h2] at ha
      exact absurd ha List.not_mem_nil
  · rwa [List.take_of_length_le (by have := hJ.inv.1; omega)]

theorem step_J (hJ : J items0 R x) : Sum.elim (J items0 R) (Done items0 R) (step (reqTest R) x) := by
  rw [step_eq]
  split
  · exact hJ.accept ‹_›
  · exact hJ.reject (Bool.eq_false_iff.mpr ‹_›)

omit [DecidableEq α] in
theorem sublist_eq_filter (p : α → Bool) (l s : List α) (hn : l.Nodup) (hsub : s.Sublist l)
    (h1 : ∀ b ∈ l, p b = true → b ∈ s) (h2 : ∀ b ∈ s, p b = true) : s = l.filter p := by
  -- `s` is a sublist of the filtered list, which has no duplicates and lies within `s`, so is no longer
  have hs : s.Sublist (l.filter p) := by
    have := hsub.filter p
    rwa [List.filter_eq_self.mpr h2] at this
  refine hs.eq_of_length_le ((hn.sublist List.filter_sublist).length_le_of_subset fun b hb => ?_)
  rw [List.mem_filter] at hb
  exact h1 b hb.1 hb.2

theorem Done.eq_filter {r : List α} (hd : Done items0 R r) (hn : items0.Nodup) :
    r = items0.filter (fun a => decide (a ∈ R)) :=
  sublist_eq_filter _ items0 r hn hd.sub (fun b _ hp => hd.req b (by simpa using hp)) (fun b hb => by simpa using hd.only b hb)

theorem monotone_exact (items0 R : List α) (hn : items0.Nodup) (hR : ∀ r ∈ R, r ∈ items0)
    (fuel : Nat) (r : List α) (h : start (reqTest R) fuel items0 = some r) :
    r = items0.filter (fun a => decide (a ∈ R)) :=
  (startWith_elim (fun _ => step_J) (Done.nil (.refl _) hR) (J.fresh (.refl _) hR) (start_eq _ fuel items0 ▸ h)).eq_filter hn

end Cvise

