import Cvise.Model.Passes
import Cvise.Proofs.Measured
/-! C03: every pass proposes a bounded number of candidates, whatever the verdicts.  One induction over `runHistory`
    (`drive_bound_gen`); the other bounds are its instances. -/
namespace Cvise.P
open Cvise Cvise.M Cvise.D

theorem runHistory_cons {σ : Type} (P : TextPass σ) (a : Bool) (hs : List Bool) (s : Text) (st : σ) (acc : List (PR × Text))
    (pr : PR) (s2 : Text) (st2 : σ) (h : P.transform s st = (pr, s2, st2)) :
    runHistory P (a :: hs) s (some st) acc =
      if pr = .stop ∨ pr = .error ∨ pr = .crash then (acc ++ [(pr, s2)], false)
      else if a ∧ pr = .ok then runHistory P hs s2 (P.aos s2 st2) (acc ++ [(pr, s2)])
      else runHistory P hs s (P.advance s st) (acc ++ [(pr, s2)]) := by
  simp only [runHistory, h]

theorem runHistory_none {σ : Type} (P : TextPass σ) (hist : List Bool) (s : Text) (acc : List (PR × Text)) :
    (runHistory P hist s none acc).1 = acc := by
  cases hist <;> rfl

theorem runHistory_acc_subset {σ : Type} (P : TextPass σ) : ∀ (hist : List Bool) (s : Text) (st : Option σ) (acc : List (PR × Text)) (x : PR × Text),
    x ∈ acc → x ∈ (runHistory P hist s st acc).1 := by
  intro hist
  induction hist with
  | nil => intro s st acc x h; simpa [runHistory] using h
  | cons a hs ih =>
    intro s st acc x h
    cases st with
    | none => simpa [runHistory] using h
    | some st =>
      rcases htr : P.transform s st with ⟨pr, s2, st2⟩
      rw [runHistory_cons P a hs s st acc pr s2 st2 htr]
      have hx : x ∈ acc ++ [(pr, s2)] := List.mem_append_left _ h
      split
      · exact hx
      · split
        · exact ih _ _ _ x hx
        · exact ih _ _ _ x hx

/-- the results after which the driver goes on with the pass -/
def live (pr : PR) : Prop := ¬ (pr = .stop ∨ pr = .error ∨ pr = .crash)

/-- the accept conditions are needed only if the history accepts at all (`A`): `A := False` gives the bound for
    all-reject histories -/
theorem drive_bound_gen {σ : Type} (P : TextPass σ) (A : Prop) (I : Text → σ → Prop) (μ : Text → σ → Nat)
    (I1 : ∀ s st pr s2 st2 st', I s st → P.transform s st = (pr, s2, st2) → live pr → P.advance s st = some st' → I s st')
    (I2 : A → ∀ s st s2 st2 st', I s st → P.transform s st = (.ok, s2, st2) → P.aos s2 st2 = some st' → I s2 st')
    (H1 : ∀ s st pr s2 st2 st', I s st → P.transform s st = (pr, s2, st2) → live pr → P.advance s st = some st' → μ s st' < μ s st)
    (H2 : A → ∀ s st s2 st2 st', I s st → P.transform s st = (.ok, s2, st2) → P.aos s2 st2 = some st' → μ s2 st' < μ s st) :
    ∀ (hist : List Bool), (true ∈ hist → A) → ∀ (s : Text) (st : σ) (acc : List (PR × Text)), I s st →
      (runHistory P hist s (some st) acc).1.length ≤ acc.length + μ s st + 1 := by
  intro hist
  induction hist with
  | nil => intro _ s st acc _; simp only [runHistory]; omega
  | cons a hs ih =>
    intro hA s st acc hI
    have ih := ih (fun h => hA (List.mem_cons_of_mem _ h))
    rcases htr : P.transform s st with ⟨pr, s2, st2⟩
    rw [runHistory_cons P a hs s st acc pr s2 st2 htr]
    by_cases hlive : pr = .stop ∨ pr = .error ∨ pr = .crash
    · rw [if_pos hlive]
      simp only [List.length_append, List.length_singleton]
      omega
    rw [if_neg hlive]
    by_cases hacc : a = true ∧ pr = .ok
    · rw [if_pos hacc]
      obtain ⟨rfl, rfl⟩ := hacc
      have hA := hA List.mem_cons_self
      cases haos : P.aos s2 st2 with
      | none =>
        rw [runHistory_none]
        simp only [List.length_append, List.length_singleton]
        omega
      | some st' =>
        have := H2 hA s st s2 st2 st' hI htr haos
        have := ih s2 st' (acc ++ [(.ok, s2)]) (I2 hA s st s2 st2 st' hI htr haos)
        simp only [List.length_append, List.length_singleton] at this
        omega
    · rw [if_neg hacc]
      cases hadv : P.advance s st with
      | none =>
        rw [runHistory_none]
        simp only [List.length_append, List.length_singleton]
        omega
      | some st' =>
        have := H1 s st pr s2 st2 st' hI htr hlive hadv
        have := ih s st' (acc ++ [(pr, s2)]) (I1 s st pr s2 st2 st' hI htr hlive hadv)
        simp only [List.length_append, List.length_singleton] at this
        omega

/-- The counter passes (`blank`, `includes`, `comments`) never run out of cursors
    by themselves — `advance` always succeeds — and rely on `transform` answering STOP; so the progress conditions are
    asked only of cursors whose candidate was live, which is when the driver goes on -/
theorem drive_bound_live {σ : Type} (P : TextPass σ) (I : Text → σ → Prop) (μ : Text → σ → Nat)
    (I1 : ∀ s st pr s2 st2 st', I s st → P.transform s st = (pr, s2, st2) → live pr → P.advance s st = some st' → I s st')
    (I2 : ∀ s st s2 st2 st', I s st → P.transform s st = (.ok, s2, st2) → P.aos s2 st2 = some st' → I s2 st')
    (H1 : ∀ s st pr s2 st2 st', I s st → P.transform s st = (pr, s2, st2) → live pr → P.advance s st = some st' → μ s st' < μ s st)
    (H2 : ∀ s st s2 st2 st', I s st → P.transform s st = (.ok, s2, st2) → P.aos s2 st2 = some st' → μ s2 st' < μ s st) :
    ∀ (hist : List Bool) (s : Text) (st : σ) (acc : List (PR × Text)), I s st →
      (runHistory P hist s (some st) acc).1.length ≤ acc.length + μ s st + 1 :=
  fun hist => drive_bound_gen P True I μ I1 (fun _ => I2) H1 (fun _ => H2) hist (fun _ => trivial)

theorem drive_bound_inv {σ : Type} (P : TextPass σ) (I : Text → σ → Prop) (μ : Text → σ → Nat)
    (I1 : ∀ s st st', I s st → P.advance s st = some st' → I s st')
    (I2 : ∀ s st s2 st2 st', I s st → P.transform s st = (.ok, s2, st2) → P.aos s2 st2 = some st' → I s2 st')
    (H1 : ∀ s st st', I s st → P.advance s st = some st' → μ s st' < μ s st)
    (H2 : ∀ s st s2 st2 st', I s st → P.transform s st = (.ok, s2, st2) → P.aos s2 st2 = some st' → μ s2 st' < μ s st) :
    ∀ (hist : List Bool) (s : Text) (st : σ) (acc : List (PR × Text)), I s st →
      (runHistory P hist s (some st) acc).1.length ≤ acc.length + μ s st + 1 :=
  drive_bound_live P I μ (fun s st _ _ _ st' hI _ _ => I1 s st st' hI) I2 (fun s st _ _ _ st' hI _ _ => H1 s st st' hI) H2

theorem drive_bound {σ : Type} (P : TextPass σ) (μ : Text → σ → Nat)
    (H1 : ∀ s st st', P.advance s st = some st' → μ s st' < μ s st)
    (H2 : ∀ s st s2 st2 st', P.transform s st = (.ok, s2, st2) → P.aos s2 st2 = some st' → μ s2 st' < μ s st) :
    ∀ (hist : List Bool) (s : Text) (st : σ) (acc : List (PR × Text)),
      (runHistory P hist s (some st) acc).1.length ≤ acc.length + μ s st + 1 :=
  fun hist s st acc => drive_bound_inv P (fun _ _ => True) μ (fun _ _ _ _ _ => trivial) (fun _ _ _ _ _ _ _ _ => trivial)
    (fun s st st' _ => H1 s st st') (fun s st s2 st2 st' _ => H2 s st s2 st2 st') hist s st acc trivial

/-- a text pass as the driver sees it (key and limits are irrelevant for termination) -/
def TextPass.toI {σ : Type} (Q : TextPass σ) (key : Nat := 0) (maxT : Option Nat := none) : PassI Text σ where
  key := key
  maxT := maxT
  new := Q.new
  advance := Q.advance
  aos := Q.aos
  transform := Q.transform

/-- `D.Measured` lists the hypotheses of `drive_bound_inv`: a pass that is `Measured` for the parallel driver has its
    candidate bound under every accept/reject history as well -/
theorem drive_bound_measured {σ : Type} (Q : TextPass σ) (key : Nat) (maxT : Option Nat) (I : Text → σ → Prop) (μ : Text → σ → Nat)
    (h : Measured (Q.toI key maxT) I μ) (hist : List Bool) (s : Text) (st : σ) (acc : List (PR × Text)) (hI : I s st) :
    (runHistory Q hist s (some st) acc).1.length ≤ acc.length + μ s st + 1 :=
  drive_bound_inv Q I μ h.advI h.accI h.adv h.acc hist s st acc hI

/-- the lexicographic measure (length of the text, then a rank `ν ≤ B |s|` of the cursor on that text) packed into one
    number `|s|·(B|s| + 1) + ν` (`includes`, `comments`, the `finditer` passes) -/
theorem drive_bound_lex {σ : Type} (P : TextPass σ) (I : Text → σ → Prop) (ν : Text → σ → Nat) (B : Nat → Nat)
    (hB : ∀ m n, m ≤ n → B m ≤ B n) (hν : ∀ s st, I s st → ν s st ≤ B s.length)
    (I1 : ∀ s st pr s2 st2 st', I s st → P.transform s st = (pr, s2, st2) → live pr → P.advance s st = some st' → I s st')
    (I2 : ∀ s st s2 st2 st', I s st → P.transform s st = (.ok, s2, st2) → P.aos s2 st2 = some st' → I s2 st')
    (H1 : ∀ s st pr s2 st2 st', I s st → P.transform s st = (pr, s2, st2) → live pr → P.advance s st = some st' → ν s st' < ν s st)
    (H2 : ∀ s st s2 st2, I s st → P.transform s st = (.ok, s2, st2) → s2.length < s.length)
    (hist : List Bool) (s : Text) (st : σ) (acc : List (PR × Text)) (hI : I s st) :
    (runHistory P hist s (some st) acc).1.length ≤ acc.length + (s.length * (B s.length + 1) + ν s st) + 1 := by
  refine drive_bound_live P I (fun s st => s.length * (B s.length + 1) + ν s st) I1 I2
    (fun s st pr s2 st2 st' hI htr hl hadv => Nat.add_lt_add_left (H1 s st pr s2 st2 st' hI htr hl hadv) _) ?_ hist s st acc hI
  intro s st s2 st2 st' hI htr haos
  have hlt := H2 s st s2 st2 hI htr
  have h1 := hν s2 st' (I2 s st s2 st2 st' hI htr haos)
  have h2 := hB s2.length s.length (by omega)
  -- n₂ < n:  n₂·(B n₂ + 1) + ν' ≤ (n − 1)·(B n + 1) + B n < n·(B n + 1)
  have h3 : s2.length * (B s2.length + 1) ≤ (s.length - 1) * (B s.length + 1) := Nat.mul_le_mul (by omega) (by omega)
  have h4 : (s.length - 1) * (B s.length + 1) + (B s.length + 1) = s.length * (B s.length + 1) := by
    rw [← Nat.succ_mul]
    congr 1
    omega
  show s2.length * (B s2.length + 1) + ν s2 st' < s.length * (B s.length + 1) + ν s st
  omega

/-- the cursor of `comments` counts up to the end of the table (the state only grows, `transform` stops beyond the table) -/
def commentsMu (_ : Text) (st : Nat) : Nat := Gen.commentsSubs.length + 1 - st

/-- the cursor measure of C06 (`mu`) for `lines`, on the lines of the text -/
def linesMu (s : Text) (st : BS) : Nat :=
  st.chunk * (2 * (splitLines s).length + 2) + ((splitLines s).length - st.index) + (splitLines s).length

end Cvise.P
