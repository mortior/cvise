import Cvise.Model.Passes
/-! C07: candidates are genuine, local edits — theorems over the pass models.  "OK ⇒ differs" comes from the
    `prog != prog2` guards: for `balanced`, `ternary` and `comments` it is part of the one specification of their transform
    loops (`balLoop_ok`, `ternLoop_ok`, `commentsLoop_spec`), for `peep` of `peepTransform_okSplice` below. -/
namespace Cvise.P
open Cvise Cvise.M Cvise.D

/-- the shape of a local edit: everything before `a` and from `b` on is the input, character for character -/
def LocalEdit (s out : Text) (a b : Nat) (mid : Text) : Prop := out = s.take a ++ mid ++ s.drop b

/-- what C07 says of one answer of `peep` on `s`: an OK candidate differs from `s` and is a local edit of it -/
def OkSplice (s : Text) (r : PR × Text × PeepSt) : Prop :=
  r.1 = .ok → r.2.1 ≠ s ∧ ∃ a b mid, LocalEdit s r.2.1 a b mid

theorem okSplice_of_ne {s : Text} {pr : PR} {t : Text} {st : PeepSt} (h : pr ≠ .ok) : OkSplice s (pr, t, st) :=
  fun h' => absurd h' h

/-- the `finish` step of `peepTransform`: OK only behind the `prog != prog2` guard -/
theorem okSplice_finish {s s2 : Text} {st : PeepSt} (hl : ∃ a b mid, LocalEdit s s2 a b mid) :
    OkSplice s (if s2 ≠ s then (PR.ok, s2, st) else (.invalid, s, st)) := by
  by_cases hne : s2 ≠ s
  · rw [if_pos hne]; exact fun _ => ⟨hne, hl⟩
  · rw [if_neg hne]; exact okSplice_of_ne (by decide)

theorem peepTransform_okSplice (arg : String) (s : Text) (st : PeepSt) : OkSplice s (peepTransform arg s st) := by
  unfold peepTransform
  -- `by_cases` + `rw [if_pos]` where `split` would be natural: `split` on an `if` whose branches hold the three
  -- pattern tables is slow to check
  by_cases hp : st.pos > s.length
  · rw [if_pos hp]; exact okSplice_of_ne (by decide)
  rw [if_neg hp]
  by_cases ha : arg = "a"
  · rw [if_pos ha]
    split
    · exact okSplice_of_ne (by decide)
    · split
      · exact okSplice_of_ne (by decide)
      · exact okSplice_finish ⟨_, _, _, rfl⟩
  rw [if_neg ha]
  by_cases hb : arg = "b"
  · rw [if_pos hb]
    split
    · exact okSplice_of_ne (by decide)
    · generalize (if s.head? = some ',' then Gen.peepBorderOpt else Gen.peepBorder) = front
      generalize (if s.getLast? = some ',' then Gen.peepBorderOpt else Gen.peepBorder) = back
      dsimp only
      split
      · exact okSplice_of_ne (by decide)
      · exact okSplice_finish ⟨_, _, _, rfl⟩
  rw [if_neg hb]
  split
  · exact okSplice_of_ne (by decide)
  · exact okSplice_finish ⟨_, _, _, rfl⟩

theorem splice_length {α : Type} (l r : List α) (a e : Nat) (h1 : a ≤ e) (h2 : e ≤ l.length) :
    (l.take a ++ r ++ l.drop e).length + (e - a) = l.length + r.length := by
  simp only [List.length_append, List.length_take, List.length_drop]
  omega

theorem take_slice_drop {α : Type} (l : List α) {a e : Nat} (h : a ≤ e) : l.take a ++ (l.take e).drop a ++ l.drop e = l := by
  conv => rhs; rw [← List.take_append_drop e l, ← List.take_append_drop a (l.take e), List.take_take, Nat.min_eq_left h]

theorem splice_sublist {α : Type} (l r : List α) (a e : Nat) (h : a ≤ e) (hr : r.Sublist ((l.take e).drop a)) :
    (l.take a ++ r ++ l.drop e).Sublist l := by
  conv => rhs; rw [← take_slice_drop l h]
  exact ((List.Sublist.refl _).append hr).append (List.Sublist.refl _)

theorem slice_sublist_slice {α : Type} (l : List α) (a k1 k2 e : Nat) (h1 : a ≤ k1) (h2 : k2 ≤ e) :
    ((l.take k2).drop k1).Sublist ((l.take e).drop a) :=
  (List.drop_sublist_drop_left _ h1).trans (List.Sublist.drop (List.take_sublist_take_left h2) _)

theorem sublist_ne_length_lt {α : Type} {a b : List α} (h : a.Sublist b) (hne : a ≠ b) : a.length < b.length :=
  Nat.lt_of_le_of_ne h.length_le (mt h.eq_of_length hne)

theorem slice_length (s : Text) (a e : Nat) (h : e ≤ s.length) : ((s.take e).drop a).length = e - a := by
  rw [List.length_drop, List.length_take, Nat.min_eq_left h]

theorem slice_split (s : Text) (a b c : Nat) (h1 : a ≤ b) (h2 : b ≤ c) (h3 : c ≤ s.length) :
    (s.take c).drop a = (s.take b).drop a ++ (s.take c).drop b := by
  have h : s.take b = (s.take c).take b := by rw [List.take_take, Nat.min_eq_left h2]
  rw [h, ← List.drop_append_of_le_length (by rw [List.length_take, List.length_take]; omega), List.take_append_drop]

theorem slice_getElem? (s : Text) (a e i : Nat) (h : a + i < e) : ((s.take e).drop a)[i]? = s[a + i]? := by
  rw [List.getElem?_drop, List.getElem?_take, if_pos h]

theorem splice_eq {s r : Text} {a e : Nat} (h1 : a ≤ e) (h : s.take a ++ r ++ s.drop e = s) : r = (s.take e).drop a :=
  List.append_cancel_left (List.append_cancel_right (h.trans (take_slice_drop s h1).symm))

theorem splice_length_lt (s r : Text) (a e : Nat) (h1 : a ≤ e) (h2 : e ≤ s.length) (h3 : r.length < e - a) :
    (s.take a ++ r ++ s.drop e).length < s.length := by
  have := splice_length s r a e h1 h2
  omega

theorem ne_of_length_lt {s t : Text} (h : t.length < s.length) : t ≠ s := fun e => Nat.lt_irrefl _ (e ▸ h)

end Cvise.P
