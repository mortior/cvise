import Cvise.Proofs.BinaryMoves
/-! C06: a completed run that accepted nothing has tried (and seen rejected) the removal of every single instance.
    `K l P`: while nothing has been accepted (`items = l`) and the chunk is 1, `P` holds of `l` without its `j`-th element for
    every `j` before the cursor; `P c` is "the test refused `c`" (for the ifs run: with either value). -/
namespace Cvise
variable {α : Type}

structure K (l : List α) (P : List α → Prop) (x : St α) : Prop where
  inv : x.Inv
  sub : x.items.Sublist l
  pre : x.items = l → x.st.chunk = 1 → ∀ j, j < x.st.index → P (l.eraseIdx j)

structure DoneK (l : List α) (P : List α → Prop) (r : List α) : Prop where
  sub : r.Sublist l
  all : r = l → ∀ j, j < l.length → P (l.eraseIdx j)

variable {l : List α} {P : List α → Prop} {x : St α}

theorem K.fresh (h : l.length ≠ 0) : K l P (St.fresh l) :=
  ⟨St.fresh_inv h, .refl _, fun _ _ _ hj => absurd hj (Nat.not_lt_zero _)⟩

theorem DoneK.nil (h : l.length = 0) : DoneK l P l := ⟨.refl _, fun _ j hj => by omega⟩

/-- an accepted candidate is shorter than the input: whatever is claimed of the untouched list holds of it -/
theorem K.cand_ne (hK : K l P x) : x.cand ≠ l := fun h => by
  have h1 := (cand_length x hK.inv).1
  rw [h] at h1
  have := hK.sub.length_le
  omega

theorem K.cand (hK : K l P x) {y : St α} (hy : y.Inv) (hi : y.items = x.cand) : K l P y :=
  ⟨hy, hi ▸ (cand_sublist x hK.inv).trans hK.sub, fun h => absurd (hi ▸ h) hK.cand_ne⟩

theorem K.cand_done (hK : K l P x) : DoneK l P x.cand :=
  ⟨(cand_sublist x hK.inv).trans hK.sub, fun h => absurd h hK.cand_ne⟩

theorem K.accept (hK : K l P x) : Sum.elim (K l P) (DoneK l P) x.accept :=
  x.accept_elim hK.inv (fun _ hy hi _ => hK.cand hy hi) (fun _ => hK.cand_done)

theorem K.upto (hK : K l P x) (hP : x.items = l → x.st.chunk = 1 → P x.cand) (hl : x.items = l) (hc : x.st.chunk = 1) :
    ∀ j, j ≤ x.st.index → P (l.eraseIdx j) := fun j hj => by
  rcases Nat.lt_or_eq_of_le hj with hj | rfl
  · exact hK.pre hl hc j hj
  · rw [← hl, ← cand_single x hK.inv hc]
    exact hP hl hc

/-- the refusal is asked for only where it is used, at chunk 1 on the untouched list: there the ifs run knows of both values -/
theorem K.reject (hK : K l P x) (hP : x.items = l → x.st.chunk = 1 → P x.cand) :
    Sum.elim (K l P) (DoneK l P) x.reject := by
  refine x.reject_elim hK.inv (fun y hy hi hc => ⟨hy, hi ▸ hK.sub, fun hl hc1 j hj => ?_⟩)
    (fun hc hi => ⟨hK.sub, fun hl j hj => hK.upto hP hl hc j ?_⟩)
  · rcases hc with ⟨h1, h2⟩ | ⟨_, h2, _⟩
    · have hc : x.st.chunk = 1 := h1 ▸ hc1
      exact hK.upto hP (hi ▸ hl) hc j (by omega)
    · omega
  · have := hK.inv.1
    rw [← hl] at hj
    omega

theorem step_K (test : List α → Bool) (hK : K l (test · = false) x) :
    Sum.elim (K l (test · = false)) (DoneK l (test · = false)) (step test x) := by
  rw [step_eq]
  split
  · exact hK.accept
  · exact hK.reject fun _ _ => Bool.eq_false_iff.mpr ‹_›

theorem start_DoneK (test : List α → Bool) (l : List α) (fuel : Nat) (r : List α) (h : start test fuel l = some r) :
    DoneK l (test · = false) r :=
  startWith_elim (fun _ => step_K test) DoneK.nil K.fresh (start_eq test fuel l ▸ h)

theorem no_accept_no_single (test : List α → Bool) (l : List α) (fuel : Nat) (r : List α)
    (h : start test fuel l = some r) (hlen : r.length = l.length) :
    ∀ j, j < l.length → test (l.eraseIdx j) = false :=
  have hd := start_DoneK test l fuel r h
  hd.all (hd.sub.eq_of_length hlen)

theorem result_sublist (test : List α → Bool) (l : List α) (fuel : Nat) (r : List α)
    (h : start test fuel l = some r) : r.Sublist l := (start_DoneK test l fuel r h).sub

end Cvise
