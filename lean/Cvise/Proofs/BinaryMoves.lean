import Cvise.Model.Binary
/-!
The two moves of the cursor over a list — `reject` (`advance`, the list stays) and `accept` (`advance_on_success` on the
candidate) — with one elimination rule each, and the common shape of `start`, `gcdaStart`, `ifsStart`.  The step functions of the
generic and the ifs run are choices among these moves, the gcda step rejects by `reject` and restarts on the candidate when it
accepts; so an invariant is proved once per move and not once per run.
-/
namespace Cvise
universe u
variable {α : Type u}

abbrev St.fresh (l : List α) : St α := ⟨l, ⟨0, l.length, l.length⟩⟩

theorem St.fresh_inv {l : List α} (h : l.length ≠ 0) : (St.fresh l).Inv := ⟨rfl, Nat.pos_of_ne_zero h, Nat.pos_of_ne_zero h⟩

def St.reject (x : St α) : Sum (St α) (List α) :=
  match x.st.advance with
  | some s => .inl ⟨x.items, s⟩
  | none => .inr x.items

def St.accept (x : St α) : Sum (St α) (List α) :=
  match x.st.advanceOnSuccess x.cand.length with
  | some s => .inl ⟨x.cand, s⟩
  | none => .inr x.cand

theorem step_eq (test : List α → Bool) (x : St α) : step test x = if test x.cand then x.accept else x.reject := rfl

theorem St.reject_elim {x : St α} {C : Sum (St α) (List α) → Prop} (h : x.Inv)
    (move : ∀ y : St α, y.Inv → y.items = x.items →
      (y.st.chunk = x.st.chunk ∧ y.st.index = x.st.index + x.st.chunk) ∨
        (y.st.chunk = x.st.chunk / 2 ∧ y.st.index = 0 ∧ x.st.index + x.st.chunk ≥ x.st.instances) → C (.inl y))
    (stop : x.st.chunk = 1 → x.st.index + 1 ≥ x.st.instances → C (.inr x.items)) : C x.reject := by
  unfold St.reject
  cases ha : x.st.advance with
  | some t =>
    obtain ⟨h1, h2, h3⟩ := BS.advance_inv h.2 ha
    exact move ⟨_, t⟩ ⟨h2.trans h.1, h1⟩ rfl h3
  | none =>
    obtain ⟨h1, h2⟩ := BS.advance_none h.2 ha
    exact stop h1 h2

theorem St.accept_elim {x : St α} {C : Sum (St α) (List α) → Prop} (h : x.Inv)
    (move : ∀ y : St α, y.Inv → y.items = x.cand →
      (y.st.chunk = x.st.chunk ∧ y.st.index = x.st.index) ∨
        (y.st.chunk = x.st.chunk / 2 ∧ y.st.index = 0 ∧ x.st.index ≥ x.cand.length) → C (.inl y))
    (stop : x.cand.length = 0 ∨ (x.st.chunk = 1 ∧ x.st.index ≥ x.cand.length) → C (.inr x.cand)) : C x.accept := by
  unfold St.accept
  cases ha : x.st.advanceOnSuccess x.cand.length with
  | some t =>
    obtain ⟨h1, h2, h3⟩ := BS.aos_inv h.2 ha
    exact move ⟨_, t⟩ ⟨h2, h1⟩ rfl h3
  | none => exact stop (BS.aos_none h.2 ha)

def startWith {σ : Type u} (f : σ → Sum σ (List α)) (init : St α → σ) (fuel : Nat) (l : List α) : Option (List α) :=
  if l.length = 0 then some l else iter f fuel (init (St.fresh l))

section
variable {σ : Type u} {f : σ → Sum σ (List α)} {init : St α → σ} {fuel : Nat} {l r : List α}

theorem startWith_elim {P : σ → Prop} {Q : List α → Prop} (hf : ∀ x, P x → Sum.elim P Q (f x))
    (h0 : l.length = 0 → Q l) (hi : l.length ≠ 0 → P (init (St.fresh l))) (h : startWith f init fuel l = some r) : Q r := by
  unfold startWith at h
  split at h
  · cases h
    exact h0 ‹_›
  · exact iter_elim hf (hi ‹_›) h

theorem startWith_total {P : σ → Prop} (m : σ → Nat)
    (hf : ∀ x, P x → Sum.elim (fun y => P y ∧ m y < m x) (fun _ => True) (f x))
    (hi : l.length ≠ 0 → P (init (St.fresh l)) ∧ m (init (St.fresh l)) < fuel) : ∃ r, startWith f init fuel l = some r := by
  unfold startWith
  split
  · exact ⟨l, rfl⟩
  · exact iter_total m hf (hi ‹_›).1 (hi ‹_›).2

end

theorem start_eq (test : List α → Bool) (fuel : Nat) (l : List α) :
    start test fuel l = startWith (step test) id fuel l := by
  unfold start startWith
  by_cases h : l.length = 0
  · rw [h, BS.create_zero, if_pos rfl]
  · rw [BS.create_of_ne h, if_neg h, run_eq_iter]
    rfl

end Cvise
