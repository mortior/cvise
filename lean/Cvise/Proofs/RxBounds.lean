import Cvise.Model.Rx
/-! every end position the engine reports lies between the start and the end of the text -/
namespace Cvise

/-- an end position reported from `p`: not before `p`, and inside the text if `p` is -/
def EB (s : Array Nat) (p : Nat) (x : Nat × Caps) : Prop := p ≤ x.1 ∧ (p ≤ s.size → x.1 ≤ s.size)

theorem EB_refl (s : Array Nat) (p : Nat) (c : Caps) : EB s p (p, c) := ⟨Nat.le_refl _, id⟩

theorem EB_trans {s : Array Nat} {p : Nat} {x y : Nat × Caps} (h1 : EB s p x) (h2 : EB s x.1 y) : EB s p y :=
  ⟨Nat.le_trans h1.1 h2.1, fun h => h2.2 (h1.2 h)⟩

theorem eq_of_mem_ite_singleton {α : Type} {c : Prop} [Decidable c] {a x : α} (h : x ∈ (if c then [a] else [])) : x = a :=
  List.mem_singleton.mp (List.mem_ite_nil_right.mp h).2

theorem mem_ends_cls {s : Array Nat} {neg : Bool} {items : List CItem} {p : Nat} {c : Caps} {x : Nat × Caps}
    (hx : x ∈ ends s (.cls neg items) p c) :
    ∃ h : p < s.size, (items.any (·.has s[p]) != neg) = true ∧ x = (p + 1, c) := by
  rw [ends] at hx
  by_cases h : p < s.size
  · rw [dif_pos h] at hx
    by_cases h2 : (items.any (·.has s[p]) != neg) = true
    · rw [if_pos h2] at hx; exact ⟨h, h2, List.mem_singleton.mp hx⟩
    · rw [if_neg h2] at hx; cases hx
  · rw [dif_neg h] at hx; cases hx

theorem mem_ends_any {s : Array Nat} {d : Bool} {p : Nat} {c : Caps} {x : Nat × Caps} (hx : x ∈ ends s (.any d) p c) :
    p < s.size ∧ x = (p + 1, c) := by
  rw [ends] at hx
  by_cases h : p < s.size
  · rw [dif_pos h] at hx; exact ⟨h, eq_of_mem_ite_singleton hx⟩
  · rw [dif_neg h] at hx; cases hx

theorem mem_ite_append {α : Type} {g : Bool} {a b : List α} {x : α} (h : x ∈ if g = true then a ++ b else b ++ a) :
    x ∈ a ∨ x ∈ b := by
  cases g
  · exact (List.mem_append.mp h).symm
  · exact List.mem_append.mp h

theorem endsRep_succ_mem (s : Array Nat) (r : Rx) (mn : Nat) (mx : Option Nat) (g : Bool) (fuel p : Nat) (c : Caps)
    (x : Nat × Caps) (hx : x ∈ endsRep s r mn mx g (fuel + 1) p c) :
    (x = (p, c) ∧ mn = 0) ∨ (∃ y ∈ ends s r p c, x ∈ endsRep s r (mn - 1) (mx.map (· - 1)) g fuel y.1 y.2) := by
  unfold endsRep at hx
  -- greedy or not, `x` is one of the continuations or the stop
  rcases mem_ite_append hx with h | h
  · obtain ⟨y, hy, hxy⟩ := List.mem_flatMap.mp (List.mem_ite_nil_right.mp h).2
    exact .inr ⟨y, hy, (List.mem_ite_nil_right.mp hxy).2⟩
  · have ⟨h0, hx⟩ := List.mem_ite_nil_right.mp h
    exact .inl ⟨List.mem_singleton.mp hx, h0⟩

theorem endsRep_EB (s : Array Nat) (r : Rx) (h : ∀ p c, ∀ x ∈ ends s r p c, EB s p x) (g : Bool) :
    ∀ (fuel mn : Nat) (mx : Option Nat) (p : Nat) (c : Caps), ∀ x ∈ endsRep s r mn mx g fuel p c, EB s p x
  | 0, _, _, _, _, x, hx => by rw [endsRep] at hx; cases hx
  | f + 1, mn, mx, p, c, x, hx => by
    rcases endsRep_succ_mem s r mn mx g f p c x hx with ⟨rfl, _⟩ | ⟨y, hy, hxy⟩
    · exact EB_refl s p c
    · exact EB_trans (h p c y hy) (endsRep_EB s r h g f _ _ y.1 y.2 x hxy)

-- by recursion over the regex: `ends.mutual_induct` is costly to generate
mutual
theorem ends_EB (s : Array Nat) : ∀ (r : Rx) (p : Nat) (c : Caps), ∀ x ∈ ends s r p c, EB s p x
  | .cls _ _, p, c, x, hx => by obtain ⟨h, _, rfl⟩ := mem_ends_cls hx; exact ⟨Nat.le_succ p, fun _ => h⟩
  | .any _, p, c, x, hx => by obtain ⟨h, rfl⟩ := mem_ends_any hx; exact ⟨Nat.le_succ p, fun _ => h⟩
  | .seq rs, p, c, x, hx => by rw [ends] at hx; exact endsSeq_EB s rs p c x hx
  | .alt rs, p, c, x, hx => by rw [ends] at hx; exact endsAlt_EB s rs p c x hx
  | .rep mn mx g r, p, c, x, hx => by
    rw [ends] at hx; exact endsRep_EB s r (ends_EB s r) g _ mn mx p c x hx
  | .grp id r, p, c, x, hx => by
    rw [ends] at hx
    obtain ⟨y, hy, rfl⟩ := List.mem_map.mp hx
    exact ends_EB s r p c y hy
  | .nla _, p, c, x, hx | .bos, p, c, x, hx | .bolM, p, c, x, hx | .eolM, p, c, x, hx | .eol, p, c, x, hx => by
    rw [ends] at hx; rw [eq_of_mem_ite_singleton hx]; exact EB_refl s p c
theorem endsSeq_EB (s : Array Nat) : ∀ (rs : List Rx) (p : Nat) (c : Caps), ∀ x ∈ endsSeq s rs p c, EB s p x
  | [], p, c, x, hx => by rw [endsSeq] at hx; rw [List.mem_singleton.mp hx]; exact EB_refl s p c
  | r :: rs, p, c, x, hx => by
    rw [endsSeq] at hx
    obtain ⟨y, hy, hxy⟩ := List.mem_flatMap.mp hx
    exact EB_trans (ends_EB s r p c y hy) (endsSeq_EB s rs y.1 y.2 x hxy)
theorem endsAlt_EB (s : Array Nat) : ∀ (rs : List Rx) (p : Nat) (c : Caps), ∀ x ∈ endsAlt s rs p c, EB s p x
  | [], p, c, x, hx => by rw [endsAlt] at hx; cases hx
  | r :: rs, p, c, x, hx => by
    rw [endsAlt] at hx
    exact (List.mem_append.mp hx).elim (ends_EB s r p c x) (endsAlt_EB s rs p c x)
end

theorem ends_bounds (s : Array Nat) (r : Rx) (p : Nat) (c : Caps) (x : Nat × Caps) (hx : x ∈ ends s r p c) :
    p ≤ x.1 ∧ (p ≤ s.size → x.1 ≤ s.size) := ends_EB s r p c x hx

end Cvise
