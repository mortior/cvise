import Cvise.Proofs.BinaryMoves
namespace Cvise

/-- termination measure: strictly decreases on every step (C03 for the binary passes).  Lexicographic in the chunk, then in what
    is left behind the index and the length: the second part never exceeds `2n + 1`, so a chunk weighs `2n + 2` -/
def mu (x : St α) : Nat := x.st.chunk * (2 * x.items.length + 2) + (x.items.length - x.st.index) + x.items.length

theorem mu_lt {c c' n n' i i' : Nat} (hn : n' ≤ n)
    (h : (c' = c ∧ (n' - i') + n' < (n - i) + n) ∨ (c' < c ∧ i' = 0)) :
    c' * (2 * n' + 2) + (n' - i') + n' < c * (2 * n + 2) + (n - i) + n := by
  rcases h with ⟨rfl, h⟩ | ⟨hc, rfl⟩
  · have := Nat.mul_le_mul_left c' (show 2 * n' + 2 ≤ 2 * n + 2 by omega)
    omega
  · have := Nat.mul_le_mul (show c' + 1 ≤ c from hc) (show 2 * n' + 2 ≤ 2 * n + 2 by omega)
    rw [Nat.add_mul, Nat.one_mul] at this
    omega

theorem mu_fresh (l : List α) : mu (St.fresh l) + 1 = startFuel l.length := rfl

theorem St.reject_dec {x : St α} (h : x.Inv) :
    Sum.elim (fun y => y.Inv ∧ mu y < mu x ∧ y.items = x.items ∧ y.st.chunk ≤ x.st.chunk) (fun _ => True) x.reject := by
  refine x.reject_elim h (fun y hy hi hc => ?_) (fun _ _ => trivial)
  have := h.2.2
  have := hy.index_lt
  rw [hi] at this
  refine ⟨hy, ?_, hi, by omega⟩
  unfold mu
  rw [hi]
  refine mu_lt (Nat.le_refl _) (hc.imp (fun hc => ⟨hc.1, ?_⟩) (fun hc => ⟨?_, hc.2.1⟩)) <;> omega

theorem St.accept_dec {x : St α} (h : x.Inv) : Sum.elim (fun y => y.Inv ∧ mu y < mu x) (fun _ => True) x.accept := by
  refine x.accept_elim h (fun y hy hi hc => ⟨hy, ?_⟩) (fun _ => trivial)
  have := (cand_length x h).1
  have := h.2.2
  unfold mu
  rw [hi]
  refine mu_lt (by omega) (hc.imp (fun hc => ⟨hc.1, ?_⟩) (fun hc => ⟨?_, hc.2.1⟩)) <;> omega

theorem step_dec (test : List α → Bool) {x : St α} (h : x.Inv) :
    Sum.elim (fun y => y.Inv ∧ mu y < mu x) (fun _ => True) (step test x) := by
  rw [step_eq]
  split
  · exact x.accept_dec h
  · exact Sum.elim_imp (x.reject_dec h) (fun _ h => ⟨h.1, h.2.1⟩) (fun _ => id)

theorem step_inv (test : List α → Bool) (x y : St α) (h : x.Inv) (hs : step test x = .inl y) : y.Inv :=
  (Sum.elim_of_inl (step_dec test h) hs).1

theorem step_mu (test : List α → Bool) (x y : St α) (h : x.Inv) (hs : step test x = .inl y) :
    mu y < mu x :=
  (Sum.elim_of_inl (step_dec test h) hs).2

theorem start_completes (test : List α → Bool) (l : List α) :
    ∃ r, start test (startFuel l.length) l = some r := by
  rw [start_eq]
  exact startWith_total mu (fun _ => step_dec test) fun h => ⟨St.fresh_inv h, Nat.lt_of_succ_le (Nat.le_of_eq (mu_fresh l))⟩

theorem run_fuel_mono (test : List α → Bool) : ∀ (f : Nat) (x : St α) (r : List α),
    run test f x = some r → ∀ g, f ≤ g → run test g x = some r := by
  rw [run_eq_iter]
  exact fun _ _ _ h _ hg => iter_mono h hg

end Cvise
