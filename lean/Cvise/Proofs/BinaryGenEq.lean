import Cvise.Model.Binary
import Cvise.Gen.BinaryPy
/-! The bodies of `BinaryState` translated from the current `abstract.py` are extensionally the hand-written
    model, so every theorem about `Cvise.BS.*` is a theorem about what the source says now.
    For the source as it is each equation holds by `rfl`; the alternatives after it in `gen_advance_eq`, `gen_aos_eq` and
    `gen_create_eq` are for a rewrite of the Python that keeps the meaning (the harmless trial changes C03-H, C06-H), which the
    check must still let through. -/
namespace Cvise
open Cvise.Gen

theorem gen_end_eq (s : BS) : BinaryPy.end_ s = s.end_ := rfl
theorem gen_realChunk_eq (s : BS) : BinaryPy.realChunk s = s.realChunk := rfl

theorem gen_advance_eq (s : BS) : BinaryPy.advance s = s.advance := by
  unfold BinaryPy.advance BS.advance
  first | rfl | (simp only; done) | grind

theorem gen_aos_eq (s : BS) (n : Nat) : BinaryPy.advanceOnSuccess s n = s.advanceOnSuccess n := by
  unfold BinaryPy.advanceOnSuccess BS.advanceOnSuccess
  first | (simp only [gen_advance_eq]; done) | (simp only [gen_advance_eq]; rfl) | grind [gen_advance_eq]

theorem gen_create_eq (n : Nat) : BinaryPy.create n = BS.create n := by
  unfold BinaryPy.create BS.create
  first | rfl | (simp only; done) | grind

end Cvise
