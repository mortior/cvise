import Cvise.Proofs.RxBounds
/-!
Shape facts about the regex engine: which regexes leave the capture list alone (`CapsStable`, with a closure lemma per
composite constructor and the syntactic test `capFree` that applies them; the lemmas for the leaves are its instances), a lower bound on what a regex consumes (`MinLen`), and the
decomposition of a match of a flat sequence `item₁ item₂ … itemₖ` (items: a named group around a capture-free regex, or a
capture-free regex) into consecutive spans with the group captures they produce.
-/
namespace Cvise

def CapsStable (r : Rx) : Prop := ∀ (s : Array Nat) (p : Nat) (c : Caps), ∀ x ∈ ends s r p c, x.2 = c
def SeqStable (rs : List Rx) : Prop := ∀ (s : Array Nat) (p : Nat) (c : Caps), ∀ x ∈ endsSeq s rs p c, x.2 = c
def AltStable (rs : List Rx) : Prop := ∀ (s : Array Nat) (p : Nat) (c : Caps), ∀ x ∈ endsAlt s rs p c, x.2 = c

theorem seqStable_nil : SeqStable [] := by
  intro s p c x hx
  rw [endsSeq] at hx
  rw [List.mem_singleton.mp hx]

theorem seqStable_cons (r : Rx) (rs : List Rx) (h1 : CapsStable r) (h2 : SeqStable rs) : SeqStable (r :: rs) := by
  intro s p c x hx
  rw [endsSeq, List.mem_flatMap] at hx
  obtain ⟨y, hy, hxy⟩ := hx
  exact (h2 s y.1 y.2 x hxy).trans (h1 s p c y hy)

theorem capsStable_seq (rs : List Rx) (h : SeqStable rs) : CapsStable (.seq rs) := by
  intro s p c x hx
  rw [ends] at hx
  exact h s p c x hx

theorem altStable_nil : AltStable [] := by
  intro s p c x hx
  rw [endsAlt] at hx
  cases hx

theorem altStable_cons (r : Rx) (rs : List Rx) (h1 : CapsStable r) (h2 : AltStable rs) : AltStable (r :: rs) := by
  intro s p c x hx
  rw [endsAlt] at hx
  exact (List.mem_append.mp hx).elim (h1 s p c x) (h2 s p c x)

theorem capsStable_alt (rs : List Rx) (h : AltStable rs) : CapsStable (.alt rs) := by
  intro s p c x hx
  rw [ends] at hx
  exact h s p c x hx

theorem capsStable_rep (mn : Nat) (mx : Option Nat) (g : Bool) (r : Rx) (h : CapsStable r) : CapsStable (.rep mn mx g r) := by
  intro s p c x hx
  rw [ends] at hx
  generalize s.size + 1 = fuel at hx
  induction fuel generalizing mn mx p c with
  | zero => rw [endsRep] at hx; cases hx
  | succ f ih =>
    rcases endsRep_succ_mem s r mn mx g f p c x hx with ⟨rfl, _⟩ | ⟨y, hy, hxy⟩
    · rfl
    · exact (ih _ _ _ _ hxy).trans (h s p c y hy)

mutual
/-- no capture group inside (what stands under a lookahead never reaches the captures) -/
def capFree : Rx → Bool
  | .seq rs | .alt rs => capFreeL rs
  | .rep _ _ _ r => capFree r
  | .grp _ _ => false
  | _ => true
def capFreeL : List Rx → Bool
  | [] => true
  | r :: rs => capFree r && capFreeL rs
end

mutual
theorem capsStable_of_capFree : ∀ (r : Rx), capFree r = true → CapsStable r
  | .cls _ _, _ => fun s p c x hx => by obtain ⟨_, _, rfl⟩ := mem_ends_cls hx; rfl
  | .any _, _ => fun s p c x hx => by rw [(mem_ends_any hx).2]
  | .seq rs, h => capsStable_seq rs (stable_of_capFreeL rs h).1
  | .alt rs, h => capsStable_alt rs (stable_of_capFreeL rs h).2
  | .rep mn mx g r, h => capsStable_rep mn mx g r (capsStable_of_capFree r h)
  | .nla _, _ | .bos, _ | .bolM, _ | .eolM, _ | .eol, _ => fun s p c x hx => by
    rw [ends] at hx; rw [eq_of_mem_ite_singleton hx]
theorem stable_of_capFreeL : ∀ (rs : List Rx), capFreeL rs = true → SeqStable rs ∧ AltStable rs
  | [], _ => ⟨seqStable_nil, altStable_nil⟩
  | r :: rs, h => by
    have h := (Bool.and_eq_true _ _).mp h
    have h1 := capsStable_of_capFree r h.1
    have h2 := stable_of_capFreeL rs h.2
    exact ⟨seqStable_cons r rs h1 h2.1, altStable_cons r rs h1 h2.2⟩
end

theorem capsStable_cls (neg : Bool) (items : List CItem) : CapsStable (.cls neg items) := capsStable_of_capFree _ rfl
theorem capsStable_any (d : Bool) : CapsStable (.any d) := capsStable_of_capFree _ rfl
theorem capsStable_nla (r : Rx) : CapsStable (.nla r) := capsStable_of_capFree _ rfl
theorem capsStable_bos : CapsStable .bos := capsStable_of_capFree _ rfl
theorem capsStable_bolM : CapsStable .bolM := capsStable_of_capFree _ rfl
theorem capsStable_eolM : CapsStable .eolM := capsStable_of_capFree _ rfl
theorem capsStable_eol : CapsStable .eol := capsStable_of_capFree _ rfl

def MinLen (r : Rx) (n : Nat) : Prop := ∀ (s : Array Nat) (p : Nat) (c : Caps), ∀ x ∈ ends s r p c, p + n ≤ x.1
def SeqMinLen (rs : List Rx) (n : Nat) : Prop := ∀ (s : Array Nat) (p : Nat) (c : Caps), ∀ x ∈ endsSeq s rs p c, p + n ≤ x.1

theorem minLen_zero (r : Rx) : MinLen r 0 := fun s p c x hx => (ends_EB s r p c x hx).1

theorem seqMinLen_zero (rs : List Rx) : SeqMinLen rs 0 := fun s p c x hx => (endsSeq_EB s rs p c x hx).1

theorem minLen_cls (neg : Bool) (items : List CItem) : MinLen (.cls neg items) 1 := by
  intro s p c x hx
  obtain ⟨_, _, rfl⟩ := mem_ends_cls hx
  exact Nat.le_refl _

theorem seqMinLen_cons (r : Rx) (rs : List Rx) (a b : Nat) (h1 : MinLen r a) (h2 : SeqMinLen rs b) : SeqMinLen (r :: rs) (a + b) := by
  intro s p c x hx
  rw [endsSeq, List.mem_flatMap] at hx
  obtain ⟨y, hy, hxy⟩ := hx
  have := h1 s p c y hy
  have := h2 s y.1 y.2 x hxy
  omega

theorem minLen_seq (rs : List Rx) (n : Nat) (h : SeqMinLen rs n) : MinLen (.seq rs) n := by
  intro s p c x hx
  rw [ends] at hx
  exact h s p c x hx

theorem minLen_grp (id : Nat) (r : Rx) (n : Nat) (h : MinLen r n) : MinLen (.grp id r) n := by
  intro s p c x hx
  rw [ends] at hx
  obtain ⟨y, hy, rfl⟩ := List.mem_map.mp hx
  exact h s p c y hy

theorem minLen_rep_pos (mn : Nat) (mx : Option Nat) (g : Bool) (r : Rx) (n : Nat) (hmn : 1 ≤ mn) (h : MinLen r n) :
    MinLen (.rep mn mx g r) n := by
  intro s p c x hx
  rw [ends] at hx
  rcases endsRep_succ_mem s r mn mx g _ p c x hx with ⟨_, h0⟩ | ⟨y, hy, hxy⟩
  · omega
  · exact Nat.le_trans (h s p c y hy) (endsRep_EB s r (ends_EB s r) g _ _ _ y.1 y.2 x hxy).1

theorem ends_seq_cls {s : Array Nat} {neg : Bool} {items : List CItem} {rs : List Rx} {p : Nat} {c : Caps} {x : Nat × Caps}
    (hx : x ∈ ends s (.seq (.cls neg items :: rs)) p c) :
    ∃ h : p < s.size, (items.any (·.has s[p]) != neg) = true ∧ x ∈ ends s (.seq rs) (p + 1) c := by
  rw [ends, endsSeq, List.mem_flatMap] at hx
  obtain ⟨y, hy, hxy⟩ := hx
  obtain ⟨h, h2, rfl⟩ := mem_ends_cls hy
  rw [ends]
  exact ⟨h, h2, hxy⟩

theorem minLen_seq_cls (neg : Bool) (items : List CItem) (rs : List Rx) : MinLen (.seq (.cls neg items :: rs)) 1 := by
  intro s p c x hx
  obtain ⟨_, _, h⟩ := ends_seq_cls hx
  exact (ends_EB s _ _ _ x h).1

/-- an item of a flat sequence: a named group around a capture-free regex (`g`), or a capture-free regex (`p`) -/
inductive It
  | g (id : Nat) (r : Rx)
  | p (r : Rx)

def It.rx : It → Rx
  | .g id r => .grp id r
  | .p r => r

def It.inner : It → Rx
  | .g _ r => r
  | .p r => r

def Flat (its : List It) : Prop := ∀ it ∈ its, CapsStable it.inner

theorem flat_nil : Flat [] := nofun
theorem flat_cons {it : It} {its : List It} (h : CapsStable it.inner) (hf : Flat its) : Flat (it :: its) :=
  List.forall_mem_cons.mpr ⟨h, hf⟩

/-- the captures a flat sequence produces when its items match the consecutive spans `p–q₁, q₁–q₂, …` (most recent first) -/
def flatCaps : List It → Nat → List Nat → Caps
  | [], _, _ => []
  | _ :: _, _, [] => []
  | .g id _ :: its, p, q :: qs => flatCaps its q qs ++ [(id, p, q)]
  | .p _ :: its, _, q :: qs => flatCaps its q qs

/-- consecutive boundaries: `p ≤ q₁ ≤ q₂ ≤ …`, each item consuming at least its `MinLen`, and its inner regex matching its span
    with the captures left alone -/
def Bounds (s : Array Nat) : List It → Nat → List Nat → Prop
  | [], _, qs => qs = []
  | _ :: _, _, [] => False
  | it :: its, p, q :: qs => p ≤ q ∧ (∀ n, MinLen it.inner n → p + n ≤ q) ∧ (∃ cc, (q, cc) ∈ ends s it.inner p cc) ∧ Bounds s its q qs

theorem Bounds.cons {s : Array Nat} {it : It} {its : List It} {p : Nat} {qs : List Nat} (h : Bounds s (it :: its) p qs) :
    ∃ q qs', qs = q :: qs' ∧ p ≤ q ∧ (∀ n, MinLen it.inner n → p + n ≤ q) ∧ (∃ cc, (q, cc) ∈ ends s it.inner p cc) ∧
      Bounds s its q qs' := by
  cases qs with
  | nil => exact h.elim
  | cons q qs => exact ⟨q, qs, rfl, h⟩

/-- where a sequence with boundaries `qs` started at `p` ends -/
def lastOr (p : Nat) (qs : List Nat) : Nat := qs.getLast?.getD p

theorem lastOr_cons (p y : Nat) (qs : List Nat) : lastOr p (y :: qs) = lastOr y qs := by
  simp [lastOr, List.getLast?_cons]

def It.cap : It → Nat → Nat → Caps
  | .g id _, a, b => [(id, a, b)]
  | .p _, _, _ => []

theorem flatCaps_cons (it : It) (its : List It) (p q : Nat) (qs : List Nat) :
    flatCaps (it :: its) p (q :: qs) = flatCaps its q qs ++ it.cap p q := by
  cases it
  · rfl
  · exact (List.append_nil _).symm

theorem ends_item (s : Array Nat) (it : It) (h : CapsStable it.inner) (p : Nat) (c : Caps) (y : Nat × Caps) (hy : y ∈ ends s it.rx p c) :
    (y.1, c) ∈ ends s it.inner p c ∧ y.2 = it.cap p y.1 ++ c := by
  cases it with
  | g id r =>
    rw [It.rx, ends] at hy
    obtain ⟨⟨e, c'⟩, hz, rfl⟩ := List.mem_map.mp hy
    cases (show c' = c from h s p c _ hz)
    exact ⟨hz, rfl⟩
  | p r =>
    have := h s p c y hy
    exact ⟨this ▸ hy, this⟩

theorem endsSeq_flat (s : Array Nat) : ∀ (its : List It) (p : Nat) (c : Caps) (x : Nat × Caps), Flat its →
    x ∈ endsSeq s (its.map It.rx) p c →
    ∃ qs : List Nat, Bounds s its p qs ∧ x.1 = lastOr p qs ∧ x.2 = flatCaps its p qs ++ c := by
  intro its
  induction its with
  | nil =>
    intro p c x _ hx
    rw [List.map_nil, endsSeq] at hx
    rw [List.mem_singleton.mp hx]
    exact ⟨[], rfl, rfl, rfl⟩
  | cons it its ih =>
    intro p c x hf hx
    rw [List.map_cons, endsSeq, List.mem_flatMap] at hx
    obtain ⟨y, hy, hxy⟩ := hx
    obtain ⟨b1, b2⟩ := ends_item s it (hf it List.mem_cons_self) p c y hy
    obtain ⟨qs, hb, hl, hc⟩ := ih y.1 y.2 x (fun i hi => hf i (List.mem_cons_of_mem _ hi)) hxy
    refine ⟨y.1 :: qs, ⟨(ends_EB _ _ _ _ _ b1).1, fun n hn => hn s p c (y.1, c) b1, ⟨c, b1⟩, hb⟩, ?_, ?_⟩
    · rw [hl, lastOr_cons]
    · rw [hc, b2, flatCaps_cons, List.append_assoc]

theorem capOf_cons (x : Nat × Nat × Nat) (c : Caps) (id : Nat) :
    capOf (x :: c) id = if x.1 = id then some x.2 else capOf c id := by
  simp only [capOf, List.find?_cons]
  by_cases h : x.1 = id <;> simp [h]

def gids : List It → List Nat
  | [] => []
  | .g id _ :: its => id :: gids its
  | .p _ :: its => gids its

theorem capOf_flatCaps_of_not_mem (id : Nat) : ∀ (its : List It) (p : Nat) (qs : List Nat) (c : Caps), id ∉ gids its →
    capOf (flatCaps its p qs ++ c) id = capOf c id
  | [], _, _, _, _ => rfl
  | _ :: _, _, [], _, _ => rfl
  | .p _ :: its, _, q :: qs, c, h => capOf_flatCaps_of_not_mem id its q qs c h
  | .g i _ :: its, p, q :: qs, c, h => by
    have h : ¬(id = i ∨ id ∈ gids its) := mt List.mem_cons.mpr h
    rw [flatCaps, List.append_assoc, capOf_flatCaps_of_not_mem id its q qs _ (h ∘ .inr), List.singleton_append, capOf_cons,
      if_neg (Ne.symm (h ∘ .inl))]

end Cvise
