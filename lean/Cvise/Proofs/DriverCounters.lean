import Cvise.Proofs.DriverLift
import Cvise.Proofs.DriverGate
/-! The bookkeeping of the driver model, property by property, each checked against the steps of a round
    (`Proofs/DriverRound.lean`) and of a pass run (`Proofs/DriverLift.lean`):
    * C20 `failed ≤ executed`: each started candidate is judged a failure at most once (the scan removes what it judged,
      the final wait only sees what is left), for every schedule;
    * the accepted-step log: a round appends no commit event (C02 accepted sequence), and per pass "worked" equals the
      number of commits logged for it, "total executed" the number of scheduling events (C20);
    * C09 / C16: at most `MAX_CRASH_DIRS + 1` `cvise_bug_*` and `MAX_EXTRA_DIRS + 1` `cvise_extra_*` directories ever exist
      (`get_extra_dir` hands out indices `0 … MAX`); a round counts at most `MAX_TIMEOUTS` timeouts (`Side.timeouts` is a
      ghost counter: every candidate the scan finds timed out bumps it);
    * C16: a pass run accepts at most `--skip-after-n-transforms` (and at most its own `max-transforms`) changes per test
      case. -/
namespace Cvise.D
variable {C σ : Type}

/-- `n` for the current pass `c`, 0 for the others -/
def wt (p c n : Nat) : Nat := if p = c then n else 0

theorem wt_succ (p c n : Nat) : wt p c (n + 1) = wt p c n + wt p c 1 := by unfold wt; split <;> omega

theorem Judged.failed_le {cfg : Cfg} {g g' : Side C} (j : Judged cfg g g') (p : Nat) :
    g.failed p ≤ g'.failed p ∧ g'.failed p ≤ g.failed p + wt p g.curPass 1 := by
  rcases j.failed with h | h <;> rw [h] <;> unfold wt <;> (try unfold bump) <;> split <;> omega

/-- the counting argument: what a step of the scan adds to `failed` it takes out of the in-flight list -/
theorem ScanStep.budget {cfg : Cfg} {a b : RoundSt C} (s : ScanStep cfg a b) :
    b.side.executed = a.side.executed ∧ b.side.worked = a.side.worked ∧ b.side.curPass = a.side.curPass ∧
    ∀ p, b.side.failed p + wt p a.side.curPass b.flight ≤ a.side.failed p + wt p a.side.curPass a.flight := by
  cases s with
  | drop n g => exact ⟨rfl, rfl, rfl, fun p => by
    show g.failed p + wt p g.curPass n ≤ g.failed p + wt p g.curPass (n + 1); rw [wt_succ]; omega⟩
  | win => exact ⟨rfl, rfl, rfl, fun p => Nat.le_refl _⟩
  | judge n g g' _ _ _ j _ | tick n g g' _ j =>
    refine ⟨j.frame.1, j.frame.2.1, j.frame.2.2.1, fun p => ?_⟩
    show g'.failed p + wt p g.curPass n ≤ g.failed p + wt p g.curPass (n + 1)
    have : g'.failed p ≤ g.failed p + wt p g.curPass 1 := (j.failed_le p).2
    rw [wt_succ]; omega

def ScanOK (g : Side C) (n : Nat) (r : RRes C (List Nat × RS × Bool)) : Prop :=
  match r with
  | .inl ((k, _, _), g') =>
    g'.executed = g.executed ∧ g'.worked = g.worked ∧ g'.curPass = g.curPass ∧
    ∀ p, g'.failed p + wt p g.curPass k.length ≤ g.failed p + wt p g.curPass n
  | .inr (_, g') =>
    g'.executed = g.executed ∧ g'.worked = g.worked ∧ g'.curPass = g.curPass ∧
    ∀ p, g'.failed p ≤ g.failed p + wt p g.curPass n

/-- `ScanOK` as a property of the states the scan goes through -/
def Budget (g : Side C) (n : Nat) (s : RoundSt C) : Prop :=
  s.side.executed = g.executed ∧ s.side.worked = g.worked ∧ s.side.curPass = g.curPass ∧
  ∀ p, s.side.failed p + wt p g.curPass s.flight ≤ g.failed p + wt p g.curPass n

theorem Budget.step {cfg : Cfg} {g : Side C} {n : Nat} (a b : RoundSt C) (s : ScanStep cfg a b) (h : Budget g n a) :
    Budget g n b := by
  obtain ⟨b1, b2, b3, b4⟩ := s.budget
  obtain ⟨h1, h2, h3, h4⟩ := h
  refine ⟨b1.trans h1, b2.trans h2, b3.trans h3, fun p => ?_⟩
  have := b4 p; have := h4 p; rw [h3] at *; omega

/-- the accepted steps recorded in a log: (pass, file, content) -/
def commits (log : List (Ev C)) : List (Nat × Nat × C) :=
  log.filterMap fun e => match e with
    | .commit p f c => some (p, f, c)
    | _ => none

theorem commits_append (a b : List (Ev C)) : commits (a ++ b) = commits a ++ commits b := by
  simp [commits, List.filterMap_append]

theorem commits_tested {tested : List (Ev C)} (hT : ∀ e ∈ tested, ∃ d x, e = Ev.tested d x) : commits tested = [] :=
  List.filterMap_eq_nil_iff.mpr fun e he => by obtain ⟨_, _, rfl⟩ := hT e he; rfl

/-- what `process_result` appends: at most a `tested` event, then the commit -/
theorem commits_commit (l tested : List (Ev C)) (hT : commits tested = []) (p k : Nat) (c : C) :
    commits (l ++ tested ++ [Ev.commit p k c]) = commits l ++ [(p, k, c)] := by
  rw [commits_append, commits_append, hT, List.append_nil]; rfl

theorem Judged.commits {cfg : Cfg} {g g' : Side C} (j : Judged cfg g g') : commits g'.log = commits g.log := by
  obtain ⟨l, hl, hm⟩ := j.log
  rw [hl, commits_append, List.append_right_eq_self, D.commits, List.filterMap_eq_nil_iff]
  intro e he
  rcases hm e he with rfl | rfl | rfl <;> rfl

def scheds (log : List (Ev C)) : List Nat :=
  log.filterMap fun e => match e with
    | .sched p _ => some p
    | _ => none

theorem scheds_append (a b : List (Ev C)) : scheds (a ++ b) = scheds a ++ scheds b := by
  simp [scheds, List.filterMap_append]

def startedOf (p : Nat) (log : List (Ev C)) : Nat := ((scheds log).filter (fun q => q = p)).length

theorem startedOf_nonsched (p : Nat) (l m : List (Ev C)) (h : scheds m = []) : startedOf p (l ++ m) = startedOf p l := by
  unfold startedOf; rw [scheds_append, h]; simp

theorem Judged.startedOf {cfg : Cfg} {g g' : Side C} (j : Judged cfg g g') (p : Nat) :
    startedOf p g'.log = startedOf p g.log := by
  obtain ⟨l, hl, hm⟩ := j.log
  rw [hl]
  refine startedOf_nonsched p _ l (List.filterMap_eq_nil_iff.mpr fun e he => ?_)
  rcases hm e he with rfl | rfl | rfl <;> rfl

def DirOK (cfg : Cfg) (g : Side C) : Prop := g.bug ≤ cfg.maxCrash + 1 ∧ g.extra ≤ cfg.maxExtra + 1

theorem Judged.dirs {cfg : Cfg} {g g' : Side C} (j : Judged cfg g g') (h : DirOK cfg g) : DirOK cfg g' := by
  have := j.bug; have := j.extra
  unfold DirOK at *
  omega

variable [DecidableEq C]

theorem processDone_ok (cfg : Cfg) (size : C → Nat) (cur : C) (env : Nat → EnvRes C σ) (done : Nat → Bool) :
    ∀ (L : List Nat) (g : Side C) (rs : RS) (q : Bool),
      ScanOK g L.length (processDone cfg size cur env done L g rs q) := by
  intro L g rs q
  have := processDone_inv (Budget g L.length) (Budget.step (cfg := cfg)) size cur env done L 0 g rs q ⟨rfl, rfl, rfl, fun _ => Nat.le_refl _⟩
  generalize processDone cfg size cur env done L g rs q = r at this ⊢
  rcases r with ⟨⟨k, _, _⟩, g'⟩ | ⟨_, g'⟩
  · exact this
  · obtain ⟨_, _, _, h1, h2, h3, h4⟩ := this
    exact ⟨h1, h2, h3, fun p => Nat.le_of_add_right_le (h4 p)⟩

theorem wfs_ok (cfg : Cfg) (size : C → Nat) (cur : C) (env : Nat → EnvRes C σ) :
    ∀ (L : List Nat) (g : Side C) (rs : RS),
      let g' := RRes.side (wfs cfg size cur env L g rs)
      g'.executed = g.executed ∧ g'.worked = g.worked ∧ g'.curPass = g.curPass ∧
      ∀ p, g'.failed p ≤ g.failed p + wt p g.curPass L.length := by
  intro L g rs
  obtain ⟨_, _, h1, h2, h3, h4⟩ :=
    wfs_inv (Budget g L.length) (Budget.step (cfg := cfg)) size cur env L g rs false ⟨rfl, rfl, rfl, fun _ => Nat.le_refl _⟩
  exact ⟨h1, h2, h3, fun p => Nat.le_of_add_right_le (h4 p)⟩

theorem roundLoop_ok (cfg : Cfg) (size : C → Nat) (pkey : Nat) (cur : C) (env : Nat → EnvRes C σ) (more : Nat → Bool)
    (done : Nat → Nat → Bool) : ∀ (fuel t : Nat) (futs : List Nat) (g : Side C) (rs : RS),
      (∀ p, g.failed p + wt p g.curPass futs.length ≤ g.executed p) →
      let g' := RRes.side (roundLoop cfg size pkey cur env more done fuel t futs g rs)
      g'.worked = g.worked ∧ g'.curPass = g.curPass ∧ ∀ p, g'.failed p ≤ g'.executed p := by
  intro fuel t futs g rs h
  obtain ⟨_, _, _, h1, h2, h3⟩ := roundLoop_inv
    (fun s => s.side.worked = g.worked ∧ s.side.curPass = g.curPass ∧
      ∀ p, s.side.failed p + wt p g.curPass s.flight ≤ s.side.executed p)
    (fun a b s ⟨a1, a2, a3⟩ => by
      cases s with
      | scan s =>
        obtain ⟨b1, b2, b3, b4⟩ := s.budget
        refine ⟨b2.trans a1, b3.trans a2, fun p => ?_⟩
        have := b4 p; have := a3 p; rw [a2] at *; rw [b1]; omega
      | sched n g1 =>
        refine ⟨a1, a2, fun p => ?_⟩
        have : g1.failed p + wt p g.curPass n ≤ g1.executed p := a3 p
        rw [show g1.curPass = g.curPass from a2]
        by_cases hp : p = g.curPass <;> simp [wt, bump, hp] at this ⊢ <;> omega)
    size cur env more done fuel t futs g rs ⟨rfl, rfl, h⟩
  exact ⟨h1, h2, fun p => Nat.le_of_add_right_le (h3 p)⟩

theorem roundLoop_commits (cfg : Cfg) (size : C → Nat) (pkey : Nat) (cur : C) (env : Nat → EnvRes C σ) (more : Nat → Bool)
    (done : Nat → Nat → Bool) (fuel t : Nat) (futs : List Nat) (g : Side C) (rs : RS) :
    commits (RRes.side (roundLoop cfg size pkey cur env more done fuel t futs g rs)).log = commits g.log :=
  roundLoop_side_inv (fun g' => commits g'.log = commits g.log) (fun _ _ j h => j.commits.trans h) (fun _ h => h)
    (fun _ _ h => by rw [commits_append, h]; simp [commits]) size cur env more done fuel t futs g rs rfl

/-- the ghost counter moves with the round's own count, and the scan quits when that reaches the limit -/
theorem roundLoop_timeouts (cfg : Cfg) (size : C → Nat) (pkey : Nat) (cur : C)
    (env : Nat → EnvRes C σ) (more : Nat → Bool) (done : Nat → Nat → Bool)
    (fuel t : Nat) (futs : List Nat) (g : Side C) (rs : RS) (h : rs.tc < cfg.maxTimeouts) :
    (RRes.side (roundLoop cfg size pkey cur env more done fuel t futs g rs)).timeouts + rs.tc ≤ g.timeouts + cfg.maxTimeouts := by
  obtain ⟨_, tc, _, h1, h2, _⟩ := roundLoop_inv (cfg := cfg) (pkey := pkey)
    (fun ⟨_, g', tc, q⟩ => g'.timeouts + rs.tc = g.timeouts + tc ∧ tc ≤ cfg.maxTimeouts ∧ (tc = cfg.maxTimeouts → q = true))
    (fun a b s ha => by
      cases s with
      | sched => exact ha
      | scan s =>
        cases s with
        | drop => exact ha
        | win => exact ⟨ha.1, ha.2.1, fun _ => rfl⟩
        | judge _ _ _ _ _ _ j hq => exact ⟨j.frame.2.2.2 ▸ ha.1, ha.2.1, fun h => hq (ha.2.2 h)⟩
        | tick n g1 g' tc j =>
          obtain ⟨a1, a2, a3⟩ := ha
          have : tc ≠ cfg.maxTimeouts := fun h => by cases a3 h
          have e : g'.timeouts = g1.timeouts + 1 := j.frame.2.2.2
          exact ⟨by omega, by omega, fun h => by simp; omega⟩)
    size cur env more done fuel t futs g rs ⟨rfl, Nat.le_of_lt h, fun e => by omega⟩
  omega

variable [Inhabited σ] [Inhabited C]

def StatOK (x : St C) : Prop := ∀ p, x.side.failed p ≤ x.side.executed p

theorem runPass_stat (cfg : Cfg) (W : World C) (dn : Sched) (P : PassI C σ) (order : List Nat) (fuel rid : Nat) (x : St C)
    (h : StatOK x) : StatOK (LRes.st' (runPass cfg W dn P order fuel rid x)) := by
  exact runPass_side_inv (fun g => ∀ p, g.failed p ≤ g.executed p)
    (fun cur env more done fuel g hg =>
      (roundLoop_ok cfg W.size P.key cur env more done fuel 0 [] g {} (fun p => by simpa [wt] using hg p)).2.2)
    (fun g g' s hg => by cases s <;> exact hg) dn order fuel rid x h

def acceptedOf (p : Nat) (log : List (Ev C)) : Nat := ((commits log).filter (fun c => c.1 = p)).length

def WInv (x : St C) : Prop := ∀ p, x.side.worked p = acceptedOf p x.side.log

/-- a pass run bumps "worked" of its own key exactly when it logs a commit under that key -/
theorem runPass_worked (cfg : Cfg) (W : World C) (dn : Sched) (P : PassI C σ) (order : List Nat) (fuel rid : Nat) (x : St C)
    (h : WInv x) : WInv (LRes.st' (runPass cfg W dn P order fuel rid x)) := by
  let I (g : Side C) : Prop := g.curPass = P.key ∧ ∀ p, g.worked p = acceptedOf p g.log
  refine (runPass_side_inv I ?_ ?_ dn order fuel rid x ⟨rfl, h⟩).2
  · intro cur env more done fuel g hg
    refine roundLoop_side_inv I ?_ (fun _ h => h) ?_ _ cur env more done fuel 0 [] g {} hg
    · intro g g' j ⟨h1, h2⟩
      exact ⟨j.frame.2.2.1.trans h1, fun p => by rw [j.frame.2.1, acceptedOf, j.commits]; exact h2 p⟩
    · intro g o ⟨h1, h2⟩
      exact ⟨h1, fun p => by simp [acceptedOf, commits, h2 p]⟩
  · intro g g' s ⟨h1, h2⟩
    cases s with
    | replay => exact ⟨h1, fun p => by simp [acceptedOf, commits, h2 p]⟩
    | commit tested k c hT =>
      refine ⟨h1, fun p => ?_⟩
      simp only [acceptedOf, commits_commit _ _ (commits_tested hT), bump, h1, h2 p, List.filter_append, List.length_append]
      by_cases hp : p = P.key
      · simp [hp]
      · simp [hp, Ne.symm hp]

def EInv (x : St C) : Prop := ∀ p, x.side.executed p = startedOf p x.side.log

/-- a pass run bumps "executed" of its own key exactly when it logs a scheduling event under that key -/
theorem runPass_executed (cfg : Cfg) (W : World C) (dn : Sched) (P : PassI C σ) (order : List Nat) (fuel rid : Nat) (x : St C)
    (h : EInv x) : EInv (LRes.st' (runPass cfg W dn P order fuel rid x)) := by
  let I (g : Side C) : Prop := g.curPass = P.key ∧ ∀ p, g.executed p = startedOf p g.log
  refine (runPass_side_inv I ?_ ?_ dn order fuel rid x ⟨rfl, h⟩).2
  · intro cur env more done fuel g hg
    refine roundLoop_side_inv I ?_ (fun _ h => h) ?_ _ cur env more done fuel 0 [] g {} hg
    · intro g g' j ⟨h1, h2⟩
      exact ⟨j.frame.2.2.1.trans h1, fun p => by rw [j.frame.1, j.startedOf]; exact h2 p⟩
    · intro g o ⟨h1, h2⟩
      refine ⟨h1, fun p => ?_⟩
      simp only [startedOf, scheds_append, bump, h1, h2 p, List.filter_append, List.length_append]
      by_cases hp : p = P.key
      · simp [hp, scheds]
      · simp [hp, Ne.symm hp, scheds]
  · intro g g' s ⟨h1, h2⟩
    refine ⟨by cases s <;> exact h1, fun p => ?_⟩
    cases s with
    | replay => exact (h2 p).trans (startedOf_nonsched p _ _ rfl).symm
    | commit tested k c hT =>
      refine (h2 p).trans (startedOf_nonsched p _ _ ?_).symm |>.trans (by rw [List.append_assoc])
      rw [scheds_append]
      exact List.append_eq_nil_iff.mpr
        ⟨List.filterMap_eq_nil_iff.mpr fun e he => by obtain ⟨_, _, rfl⟩ := hT e he; rfl, rfl⟩

/-- only a judgement or a saved timeout creates a report directory -/
theorem runPass_dirs (cfg : Cfg) (W : World C) (dn : Sched) (P : PassI C σ) (order : List Nat) (fuel rid : Nat) (x : St C)
    (h : DirOK cfg x.side) : DirOK cfg (LRes.st (runPass cfg W dn P order fuel rid x)).side :=
  runPass_side_inv (DirOK cfg)
    (fun cur env more done fuel g hg =>
      roundLoop_side_inv (DirOK cfg) (fun _ _ j => j.dirs) (fun _ h => h) (fun _ _ h => h) _ cur env more done fuel 0 [] g {} hg)
    (fun g g' s hg => by cases s <;> exact hg) dn order fuel rid x h

theorem fileLoop_commits_le (cfg : Cfg) (W : World C) (dn : Sched) (P : PassI C σ) (k startSize : Nat) (n : Nat)
    (hl : cfg.skipN = some n ∨ P.maxT = some n) (fuel rid : Nat) (s : σ) (succ : Nat) (x : St C) (h : succ < n) :
    (commits (LRes.st (fileLoop cfg W dn P k startSize fuel rid s succ x)).side.log).length + succ ≤
      (commits x.side.log).length + n := by
  -- the count stays within `n`: a commit at `m` happens only if `m` is where the loop started or no limit was hit at `m`
  obtain ⟨m, h1, h2⟩ := fileLoop_inv (cfg := cfg) (W := W) (P := P)
    (fun m g => (commits g.log).length + succ = (commits x.side.log).length + m ∧ m ≤ n) succ
    (fun cur env more done fuel m g hg => by rw [roundLoop_commits]; exact hg)
    (fun m g tested k c hT hm hg => by
      simp only [commits_commit _ _ (commits_tested hT), List.length_append, List.length_cons, List.length_nil]
      refine ⟨by omega, Nat.lt_of_le_of_ne hg.2 fun e => ?_⟩
      rcases hm with hm | hm
      · omega
      · rcases hl with hl | hl <;> simp [hl, limitHit, e, Nat.ne_zero_of_lt h] at hm)
    dn k startSize fuel rid s succ x (.inl rfl) ⟨rfl, Nat.le_of_lt h⟩
  omega

end Cvise.D
