import Cvise.Model.Matcher
/-! C12: `matchAt`, `balSearch`, `matchPat`, `matchSeq`, `searchLoop` against their declarative specifications.
    Every search (`balSearch`, `matchPat`, `searchLoop`, and the engine's `rxSearchFrom` in `Proofs/RxContract.lean`) returns the match at the least
    position that has one: their specifications are instances of `FirstFrom`.
-/
namespace Cvise.M

/-! `scan` against `ClosesAt`.  The two obey the same recursion: nothing to do at depth 0, failure on `[]`, and on
    `x :: xs` one step to the next depth.  The three branches of that step are met once, in `scan_cons`. -/

theorem depth_step (o c : Char) (x : Char) (xs : List Char) (d : Int) :
    depth o c (x :: xs) d = depth o c xs (if x = o then d + 1 else if x = c then d - 1 else d) := rfl

theorem depth_nil (o c : Char) (d : Int) : depth o c [] d = d := rfl

theorem scan_zero (o c : Char) (xs : List Char) : scan o c xs 0 = some 0 := by cases xs <;> rfl

theorem scan_nil (o c : Char) (d : Nat) : scan o c [] (d + 1) = none := rfl

/-- at positive depth `scan` steps as `depth` does: `d'` is the depth after `x` -/
theorem scan_cons (o c x : Char) (xs : List Char) (d : Nat) : ∃ d' : Nat,
    depth o c [x] (d + 1 : Nat) = d' ∧ scan o c (x :: xs) (d + 1) = (scan o c xs d').map (· + 1) := by
  show ∃ d' : Nat, (if x = o then _ else _) = _ ∧ (if x = o then _ else _) = _
  by_cases ho : x = o
  · exact ⟨d + 2, by rw [if_pos ho]; omega, by rw [if_pos ho]⟩
  · by_cases hc : x = c
    · exact ⟨d, by rw [if_neg ho, if_pos hc]; omega, by rw [if_neg ho, if_pos hc]⟩
    · exact ⟨d + 1, by rw [if_neg ho, if_neg hc], by rw [if_neg ho, if_neg hc]⟩

theorem closesAt_zero (o c : Char) (xs : List Char) (d : Nat) : ClosesAt o c xs d 0 ↔ d = 0 := by
  simp [ClosesAt, depth_nil]

theorem closesAt_depth_zero (o c : Char) (xs : List Char) (k : Nat) : ClosesAt o c xs 0 k ↔ k = 0 := by
  constructor
  · intro h
    cases k with
    | zero => rfl
    | succ k => exact absurd (h.2.2 0 (by omega)) (by simp [depth_nil])
  · rintro rfl
    exact (closesAt_zero o c xs 0).mpr rfl

theorem closesAt_nil (o c : Char) (d k : Nat) : ¬ ClosesAt o c [] (d + 1) k := by
  intro h
  obtain rfl : k = 0 := by simpa using h.1
  exact absurd ((closesAt_zero o c [] (d + 1)).mp h) (by omega)

theorem closesAt_cons (o c x : Char) (xs : List Char) (d d' k : Nat) (hd' : depth o c [x] (d + 1 : Nat) = d') :
    ClosesAt o c (x :: xs) (d + 1) (k + 1) ↔ ClosesAt o c xs d' k := by
  have step : ∀ ys, depth o c (x :: ys) (d + 1 : Nat) = depth o c ys d' := fun ys => hd' ▸ rfl
  simp only [ClosesAt, List.take_succ_cons, step, List.length_cons, Nat.add_le_add_iff_right]
  refine and_congr_right fun _ => and_congr_right fun _ => ⟨fun h j hj => ?_, fun h j hj => ?_⟩
  · simpa only [List.take_succ_cons, step] using h (j + 1) (by omega)
  · cases j with
    | zero => simp [depth_nil]
    | succ j => simpa only [List.take_succ_cons, step] using h j (by omega)

theorem scan_eq_some_iff (o c : Char) : ∀ (xs : List Char) (d k : Nat), scan o c xs d = some k ↔ ClosesAt o c xs d k
  | xs, 0, k => by rw [scan_zero, closesAt_depth_zero, Option.some.injEq, eq_comm]
  | [], d + 1, k => by rw [scan_nil]; exact ⟨nofun, fun h => absurd h (closesAt_nil o c d k)⟩
  | x :: xs, d + 1, k => by
    obtain ⟨d', hd', hs⟩ := scan_cons o c x xs d
    rw [hs]
    cases k with
    | zero => rw [closesAt_zero]; simp
    | succ k => rw [closesAt_cons o c x xs d d' k hd', ← scan_eq_some_iff o c xs d' k]; simp

theorem scan_iff (o c : Char) (xs : List Char) (d k : Nat) (hd : 0 < d) :
    scan o c xs d = some k ↔ ClosesAt o c xs d k :=
  let _ := hd  -- not needed: `scan_eq_some_iff` holds at depth 0 too
  scan_eq_some_iff o c xs d k

theorem closesAt_unique (o c : Char) (xs : List Char) (d k k' : Nat)
    (h : ClosesAt o c xs d k) (h' : ClosesAt o c xs d k') : k = k' := by
  rcases Nat.lt_trichotomy k k' with hlt | heq | hgt
  · have := h'.2.2 k hlt; rw [h.2.1] at this; omega
  · exact heq
  · have := h.2.2 k' hgt; rw [h'.2.1] at this; omega

/-- `r` is a `Q`-match at the least position from `lo` on that has one (`pos` reads the position off a match);
    `none` means that no position in `[lo, hi)` has one.  A match may lie at or beyond `hi`: `search([RegExPattern('$')], 'ab')`
    is `(2, 2)` though the loop only starts below `len`, and `search([RegExPattern(''), RegExPattern('$')], 'ab')` is `None` -/
def FirstFrom {β : Type} (pos : β → Nat) (Q : Nat → β → Prop) (lo hi : Nat) : Option β → Prop
  | some m => lo ≤ pos m ∧ Q (pos m) m ∧ ∀ a, lo ≤ a → a < pos m → ∀ m', ¬ Q a m'
  | none => ∀ a, lo ≤ a → a < hi → ∀ m', ¬ Q a m'

section FirstFrom
variable {β : Type} {pos : β → Nat} {Q : Nat → β → Prop} {lo lo' hi : Nat} {r : Option β} {m : β}

theorem FirstFrom.some (h : FirstFrom pos Q lo hi r) (hr : r = some m) :
    lo ≤ pos m ∧ Q (pos m) m ∧ ∀ a, lo ≤ a → a < pos m → ∀ m', ¬ Q a m' := by subst hr; exact h

theorem FirstFrom.none (h : FirstFrom pos Q lo hi r) (hr : r = none) : ∀ a, lo ≤ a → a < hi → ∀ m', ¬ Q a m' := by
  subst hr; exact h

theorem FirstFrom.skip (hlo : lo ≤ lo') (hn : ∀ a, lo ≤ a → a < lo' → ∀ m', ¬ Q a m') (h : FirstFrom pos Q lo' hi r) :
    FirstFrom pos Q lo hi r := by
  have from_lo' : ∀ a, lo ≤ a → ∀ m', Q a m' → lo' ≤ a := fun a ha m' hq => Nat.le_of_not_lt fun hlt => hn a ha hlt m' hq
  cases r with
  | none => exact fun a ha hb m' hq => h a (from_lo' a ha m' hq) hb m' hq
  | some m => exact ⟨Nat.le_trans hlo h.1, h.2.1, fun a ha hb m' hq => h.2.2 a (from_lo' a ha m' hq) hb m' hq⟩

end FirstFrom

theorem FirstFrom.or {Ql Qr : Nat → Span → Prop} {lo hi : Nat} {rl rr : Option Span}
    (bl : ∀ a m, Ql a m → a < hi) (br : ∀ a m, Qr a m → a < hi)
    (hl : FirstFrom Prod.fst Ql lo hi rl) (hr : FirstFrom Prod.fst Qr lo hi rr) :
    FirstFrom Prod.fst (fun a m => Ql a m ∨ (∀ m', ¬ Ql a m') ∧ Qr a m) lo hi (leftmost rl rr) := by
  cases rl with
  | none =>
    cases rr with
    | none => exact fun a ha hb m' hq => hq.elim (hl a ha hb m') fun hq => hr a ha hb m' hq.2
    | some mr =>
      have hb := br _ _ hr.2.1
      exact ⟨hr.1, .inr ⟨hl _ hr.1 hb, hr.2.1⟩, fun a ha ha' m' hq =>
        hq.elim (hl a ha (Nat.lt_trans ha' hb) m') fun hq => hr.2.2 a ha ha' m' hq.2⟩
  | some ml =>
    have hb := bl _ _ hl.2.1
    cases rr with
    | none => exact ⟨hl.1, .inl hl.2.1, fun a ha ha' m' hq =>
        hq.elim (hl.2.2 a ha ha' m') fun hq => hr a ha (Nat.lt_trans ha' hb) m' hq.2⟩
    | some mr =>
      show FirstFrom _ _ _ _ (if mr.1 < ml.1 then _ else _)
      by_cases hlt : mr.1 < ml.1
      · rw [if_pos hlt]
        exact ⟨hr.1, .inr ⟨hl.2.2 _ hr.1 hlt, hr.2.1⟩, fun a ha ha' m' hq =>
          hq.elim (hl.2.2 a ha (Nat.lt_trans ha' hlt) m') fun hq => hr.2.2 a ha ha' m' hq.2⟩
      · rw [if_neg hlt]
        exact ⟨hl.1, .inl hl.2.1, fun a ha ha' m' hq =>
          hq.elim (hl.2.2 a ha ha' m') fun hq => hr.2.2 a ha (Nat.lt_of_lt_of_le ha' (Nat.le_of_not_lt hlt)) m' hq.2⟩

theorem matchAt_ge (o c : Char) (s : List Char) (a : Nat) (h : s.length ≤ a) : matchAt o c s a = none := by
  rw [matchAt, List.drop_eq_nil_of_le h]

theorem matchAt_lt (o c : Char) (s : List Char) (a : Nat) (h : a < s.length) :
    matchAt o c s a = if s[a] = o then (scan o c (s.drop (a + 1)) 1).map (fun k => (a, a + 1 + k)) else none := by
  rw [matchAt, List.drop_eq_getElem_cons h]

theorem matchAt_iff (o c : Char) (s : List Char) (a : Nat) (m : Span) :
    matchAt o c s a = some m ↔ m.1 = a ∧ Bal o c s a m.2 := by
  unfold Bal
  by_cases h : a < s.length
  · rw [matchAt_lt o c s a h, List.getElem?_eq_getElem h, Option.some.injEq]
    by_cases hx : s[a] = o
    · rw [if_pos hx, Option.map_eq_some_iff]
      constructor
      · rintro ⟨k, hk, rfl⟩
        exact ⟨rfl, h, hx, Nat.le_add_right _ k, (Nat.add_sub_cancel_left ..).symm ▸ (scan_eq_some_iff ..).mp hk⟩
      · rintro ⟨h1, _, _, h3, h4⟩
        exact ⟨_, (scan_eq_some_iff ..).mpr h4, Prod.ext h1.symm (Nat.add_sub_of_le h3)⟩
    · rw [if_neg hx]
      exact ⟨nofun, fun h' => absurd h'.2.2.1 hx⟩
  · rw [matchAt_ge o c s a (by omega)]
    exact ⟨nofun, fun h' => absurd h'.2.1 h⟩

theorem bal_span (o c : Char) (s : List Char) (a b : Nat) (h : Bal o c s a b) : a + 2 ≤ b ∧ b ≤ s.length := by
  obtain ⟨h1, _, _, h4⟩ := h
  have hk : b - (a + 1) ≠ 0 := fun h0 => by
    rw [h0, closesAt_zero] at h4
    cases h4
  have hlen : b - (a + 1) ≤ s.length - (a + 1) := List.length_drop ▸ h4.1
  exact ⟨Nat.lt_of_sub_ne_zero hk, Nat.le_of_sub_le_sub_right h1 hlen⟩

theorem bal_unique (o c : Char) (s : List Char) (a b b' : Nat) (h : Bal o c s a b) (h' : Bal o c s a b') : b = b' := by
  have := closesAt_unique o c _ 1 _ _ h.2.2.2 h'.2.2.2
  have h1 := h.2.2.1
  have h2 := h'.2.2.1
  omega

theorem balSearch_first (o c : Char) (s : List Char) (p hi : Nat) :
    FirstFrom Prod.fst (fun a m => m.1 = a ∧ Bal o c s a m.2) p hi (balSearch o c s p) := by
  fun_induction balSearch o c s p with
  | case1 p h m hm =>
    obtain ⟨h1, h2⟩ := (matchAt_iff o c s p m).mp hm
    exact ⟨by omega, ⟨rfl, h1 ▸ h2⟩, fun a ha hb => by omega⟩
  | case2 p h hm ih =>
    refine ih.skip (Nat.le_succ p) fun a ha hb m' hq => ?_
    obtain rfl : a = p := by omega
    cases hm ▸ (matchAt_iff o c s a m').mpr hq
  | case3 p h => exact fun a ha _ m' hq => absurd hq.2.1 (by omega)

theorem balMatch_false (o c : Char) (s : List Char) (a : Nat) : balMatch o c s a false = matchAt o c s a := by
  unfold balMatch
  by_cases h : a ≥ s.length
  · rw [if_pos h, matchAt_ge o c s a h]
  · rw [if_neg h]; rfl

theorem balMatch_true (o c : Char) (s : List Char) (p : Nat) : balMatch o c s p true = balSearch o c s p := by
  unfold balMatch
  by_cases h : p ≥ s.length
  · rw [if_pos h, balSearch, dif_neg (by omega)]
  · rw [if_neg h]; rfl

/-- what the code takes a regular-expression part to be (true of Python's `re`; true of the `Rx` model by construction) -/
structure RxContract (rx : RxO) : Prop where
  matchStart : ∀ id s p m, rx id s p false = some m → m.1 = p ∧ p ≤ s.length ∧ m.1 ≤ m.2
  matchEnd : ∀ id s p m, rx id s p false = some m → m.2 ≤ s.length
  searchSome : ∀ id s p m, rx id s p true = some m →
    p ≤ m.1 ∧ rx id s m.1 false = some m ∧ ∀ a, p ≤ a → a < m.1 → rx id s a false = none
  searchNone : ∀ id s p, rx id s p true = none → ∀ a, p ≤ a → a ≤ s.length → rx id s a false = none

/-- declarative meaning of "part `p` matches at `a` with span `m`" -/
def PatSpec (rx : RxO) : Pat → List Char → Nat → Span → Prop
  | .rx id, s, a, m => rx id s a false = some m
  | .bal o c, s, a, m => m.1 = a ∧ Bal o c s a m.2
  | .or l r, s, a, m => PatSpec rx l s a m ∨ ((∀ m', ¬ PatSpec rx l s a m') ∧ PatSpec rx r s a m)

theorem patSpec_bounds (rx : RxO) (hc : RxContract rx) (p : Pat) (s : List Char) (a : Nat) (m : Span)
    (h : PatSpec rx p s a m) : m.1 = a ∧ m.1 ≤ m.2 ∧ m.2 ≤ s.length := by
  induction p with
  | rx id => exact ⟨(hc.matchStart id s a m h).1, (hc.matchStart id s a m h).2.2, hc.matchEnd id s a m h⟩
  | bal o c => have := bal_span o c s a m.2 h.2; have := h.1; omega
  | or l r ihl ihr => exact h.elim ihl fun h => ihr h.2

theorem leftmost_eq_some_iff {L R : Option Span} {m : Span} (tie : ∀ l r, L = some l → R = some r → ¬ r.1 < l.1) :
    leftmost L R = some m ↔ L = some m ∨ (∀ m', ¬ L = some m') ∧ R = some m := by
  cases L with
  | none => exact ⟨fun h => .inr ⟨nofun, h⟩, fun h => h.elim nofun (·.2)⟩
  | some l =>
    have : leftmost (some l) R = some l := by
      cases R with
      | none => rfl
      | some r => exact if_neg (tie l r rfl rfl)
    rw [this]
    exact ⟨.inl, fun h => h.elim id fun h => absurd rfl (h.1 l)⟩

theorem matchPat_false_iff (rx : RxO) (hc : RxContract rx) (p : Pat) (s : List Char) (a : Nat) (m : Span) :
    matchPat rx p s a false = some m ↔ PatSpec rx p s a m := by
  induction p generalizing m with
  | rx id => exact Iff.rfl
  | bal o c =>
    show balMatch o c s a false = some m ↔ _
    rw [balMatch_false]
    exact matchAt_iff o c s a m
  | or l r ihl ihr =>
    have tie : ∀ ml mr, matchPat rx l s a false = some ml → matchPat rx r s a false = some mr → ¬ mr.1 < ml.1 :=
      fun ml mr hl hr => by
        have := patSpec_bounds rx hc l s a ml ((ihl ml).mp hl)
        have := patSpec_bounds rx hc r s a mr ((ihr mr).mp hr)
        omega
    exact (leftmost_eq_some_iff tie).trans
      (or_congr (ihl m) (and_congr (forall_congr' fun m' => not_congr (ihl m')) (ihr m)))

theorem matchPat_true_first (rx : RxO) (hc : RxContract rx) (p : Pat) (s : List Char) (st : Nat) :
    FirstFrom Prod.fst (PatSpec rx p s) st (s.length + 1) (matchPat rx p s st true) := by
  induction p with
  | rx id =>
    show FirstFrom _ (fun a m => rx id s a false = some m) _ _ (rx id s st true)
    cases h : rx id s st true with
    | none => exact fun a ha hb m' hq => nomatch (hc.searchNone id s st h a ha (by omega)).symm.trans hq
    | some m =>
      obtain ⟨h1, h2, h3⟩ := hc.searchSome id s st m h
      exact ⟨h1, h2, fun a ha hb m' hq => nomatch (h3 a ha hb).symm.trans hq⟩
  | bal o c =>
    show FirstFrom _ _ _ _ (balMatch o c s st true)
    rw [balMatch_true]
    exact balSearch_first o c s st _
  | or l r ihl ihr =>
    have bound (p : Pat) (a : Nat) (m : Span) (h : PatSpec rx p s a m) : a < s.length + 1 := by
      have := patSpec_bounds rx hc p s a m h; omega
    exact FirstFrom.or (bound l) (bound r) ihl ihr

/-- non-search matching is sound; a failure says nothing (the range is empty) -/
theorem matchPat_false_first (rx : RxO) (hc : RxContract rx) (p : Pat) (s : List Char) (st : Nat) :
    FirstFrom Prod.fst (PatSpec rx p s) st 0 (matchPat rx p s st false) := by
  cases h : matchPat rx p s st false with
  | none => exact fun a _ hb => absurd hb (Nat.not_lt_zero a)
  | some m =>
    have hq := (matchPat_false_iff rx hc p s st m).mp h
    have h1 := (patSpec_bounds rx hc p s st m hq).1
    exact ⟨by omega, h1 ▸ hq, fun a ha hb => by omega⟩

/-- declarative: the parts match back to back from `a` to `e`, each with the span its own matcher gives -/
inductive SeqMatch (rx : RxO) (s : List Char) : List Pat → Nat → Nat → List Span → Prop
  | nil (a : Nat) : SeqMatch rx s [] a a []
  | cons {p : Pat} {ps : List Pat} {a e : Nat} {m : Span} {sp : List Span} :
      PatSpec rx p s a m → SeqMatch rx s ps m.2 e sp → SeqMatch rx s (p :: ps) a e (m :: sp)

theorem matchSeq_iff (rx : RxO) (hc : RxContract rx) (s : List Char) (parts : List Pat) (a e : Nat) (sp : List Span) :
    matchSeq rx s parts a = some (e, sp) ↔ SeqMatch rx s parts a e sp := by
  fun_induction matchSeq rx s parts a generalizing e sp with
  | case1 a => exact ⟨fun h => by cases h; exact .nil a, fun h => by cases h; rfl⟩
  | case2 p ps a hm =>
    refine ⟨nofun, fun h => ?_⟩
    cases h with
    | cons h1 _ => cases hm.symm.trans ((matchPat_false_iff rx hc p s a _).mpr h1)
  | case3 p ps a m hm ih =>
    have hps := (matchPat_false_iff rx hc p s a m).mp hm
    have hb := patSpec_bounds rx hc p s a m hps
    have hpos : a + (m.2 - m.1) = m.2 := by omega
    rw [hpos] at ih ⊢
    constructor
    · rw [Option.map_eq_some_iff]
      rintro ⟨⟨e', sp'⟩, hrest, heq⟩
      cases heq
      exact .cons hps ((ih e sp').mp hrest)
    · intro h
      cases h with
      | cons h1 h2 =>
        cases hm.symm.trans ((matchPat_false_iff rx hc p s a _).mpr h1)
        rw [(ih e _).mpr h2]
        rfl

theorem seqMatch_head {rx : RxO} {s : List Char} {p : Pat} {ps : List Pat} {a e : Nat} {sp : List Span}
    (h : SeqMatch rx s (p :: ps) a e sp) : ∃ m, PatSpec rx p s a m := by
  cases h with
  | cons h1 _ => exact ⟨_, h1⟩

theorem seqMatch_spans (rx : RxO) (hc : RxContract rx) (s : List Char) {parts : List Pat} {a e : Nat} {sp : List Span}
    (h : SeqMatch rx s parts a e sp) :
    sp.length = parts.length ∧ (∀ m ∈ sp, a ≤ m.1) ∧ sp.Pairwise fun m m' => m.2 ≤ m'.1 := by
  induction h with
  | nil a => exact ⟨rfl, nofun, .nil⟩
  | cons h1 _ ih =>
    obtain ⟨b1, b2, -⟩ := patSpec_bounds rx hc _ s _ _ h1
    exact ⟨congrArg (· + 1) ih.1,
      List.forall_mem_cons.mpr ⟨Nat.le_of_eq b1.symm, fun m hm => by have := ih.2.1 m hm; omega⟩, .cons ih.2.1 ih.2.2⟩

/-- `searchLoop` in either mode, given what `matchPat` does for the first part in that mode (`H`) -/
theorem searchLoop_first (rx : RxO) (hc : RxContract rx) (first : Pat) (rest : List Pat) (s : List Char) (mode : Bool)
    (hi : Nat) (H : ∀ st, FirstFrom Prod.fst (PatSpec rx first s) st hi (matchPat rx first s st mode)) (start : Nat) :
    FirstFrom (·.1.1) (fun a r => SeqMatch rx s (first :: rest) a r.1.2 r.2) start (min hi s.length)
      (searchLoop rx (first :: rest) first s mode start) := by
  have lift (a : Nat) (hn : ∀ m', ¬ PatSpec rx first s a m') (r : Span × List Span) :
      ¬ SeqMatch rx s (first :: rest) a r.1.2 r.2 := fun hq => (seqMatch_head hq).elim hn
  fun_induction searchLoop rx (first :: rest) first s mode start with
  | case1 start h hm =>  -- the first part is not found
    exact fun a ha hb => lift a ((H start).none hm a ha (by omega))
  | case2 start h m hm hlt => exact absurd ((H start).some hm).1 (by omega)  -- the branch `m.1 < start` is dead
  | case3 start h m hm hlt e sp hseq =>  -- the sequence matches at `m.1`
    obtain ⟨h1, _, h3⟩ := (H start).some hm
    exact ⟨h1, (matchSeq_iff rx hc s _ _ _ _).mp hseq, fun a ha hb => lift a (h3 a ha hb)⟩
  | case4 start h m hm hlt hseq ih =>  -- it does not: nothing in `[start, m.1]`, go on from `m.1 + 1`
    obtain ⟨h1, _, h3⟩ := (H start).some hm
    refine ih.skip (by omega) fun a ha hb r hq => ?_
    by_cases hlt : a < m.1
    · exact lift a (h3 a ha hlt) r hq
    · obtain rfl : a = m.1 := by omega
      cases hseq.symm.trans ((matchSeq_iff rx hc s _ _ _ _).mpr hq)
  | case5 start h => exact fun a ha hb => by omega

theorem search_eq (rx : RxO) (parts : List Pat) (s : List Char) (pos : Int) (mode : Bool) :
    (search rx parts s pos mode = none ∧ (parts = [] ∨ pos < 0 ∨ pos ≥ s.length)) ∨
    ∃ first rest, parts = first :: rest ∧ 0 ≤ pos ∧ pos < s.length ∧
      search rx parts s pos mode = searchLoop rx parts first s mode pos.toNat := by
  cases parts with
  | nil => exact .inl ⟨rfl, .inl rfl⟩
  | cons first rest =>
    by_cases hpos : pos < 0 ∨ pos ≥ s.length
    · exact .inl ⟨if_pos hpos, .inr hpos⟩
    · exact .inr ⟨first, rest, rfl, by omega, by omega, if_neg hpos⟩

end Cvise.M
