import Cvise.Proofs.PassesTerm
import Cvise.Proofs.RxContract
import Cvise.Props.C12
import Cvise.Proofs.PassesC07
/-! C03 for `balanced`: under every accept/reject history the pass proposes at most `2·|s| + 2` candidates.
    Measure: `2·|s| + 1 − start of the current match`; `advance` moves the start to the right inside the same text,
    an accepted candidate is strictly shorter and the search resumes at or after the old start. -/
namespace Cvise.P
open Cvise Cvise.M Cvise.D

/-- holds of every cursor `balanced` reaches on `s` -/
def BalI (s : Text) (st : Span) : Prop := st.1 + 2 ≤ st.2 ∧ st.2 ≤ s.length

theorem balFind_span (cfg : BalCfg) (s : Text) (pos : Int) (st : Span) (h : balFind cfg s pos = some st) :
    pos ≤ st.1 ∧ BalI s st := by
  unfold balFind find at h
  simp only [Option.map_eq_some_iff] at h
  obtain ⟨⟨⟨a0, e0⟩, sp⟩, hs, rfl⟩ := h
  obtain ⟨_, j1, j2, _⟩ := C12.search_leftmost_engine Gen.rxTable _ s pos a0 e0 sp hs
  refine ⟨j1, ?_⟩
  cases hp : cfg.pre with
  | none =>
    rw [hp] at j2
    obtain _ | ⟨h1, h2⟩ := j2
    cases h2
    have hb := bal_span cfg.o cfg.c s _ _ h1.2
    exact ⟨by simp only at *; omega, hb.2⟩
  | some id =>
    rw [hp] at j2
    obtain _ | ⟨h1, h2⟩ := j2
    obtain _ | ⟨h3, h4⟩ := h2
    cases h4
    have c1 := (rxOracle_contract Gen.rxTable).matchStart id s a0 _ h1
    have hb := bal_span cfg.o cfg.c s _ _ h3.2
    exact ⟨by simp only at *; omega, hb.2⟩

/-- `s[:m0+k] + c + s[m1+j:]`, the shape of every generated recipe but those of `replace_only` -/
def balShape (r : Recipe) : Option (Int × String × Int) :=
  match r with
  | [.slice (.abs 0) (.m 0 k), .slice (.m 1 j) .len] => some (k, "", j)
  | [.slice (.abs 0) (.m 0 k), .const c, .slice (.m 1 j) .len] => some (k, c, j)
  | _ => none

/-- `replace_only`: `s[0:a] + s[a+1:b-1] + s[b:]` -/
def onlyShape (r : Recipe) : Bool :=
  match r with
  | [.slice (.abs 0) (.m 0 0), .slice (.m 0 1) (.m 1 (-1)), .slice (.m 1 0) .len] => true
  | _ => false

theorem balanced_recipes_shaped :
    Gen.balancedCfg.all (fun x => (balShape x.2.2.2.2).isSome || onlyShape x.2.2.2.2) = true := by decide +kernel

theorem pySlice_zero (s : Text) (b : Nat) : pySlice s 0 b = s.take b := by simp [pySlice]
theorem pySlice_len (s : Text) (a : Nat) : pySlice s a s.length = s.drop a := by simp [pySlice]

theorem balShape_eval (r : Recipe) (k j : Int) (c : String) (h : balShape r = some (k, c, j)) (s : Text) (a b : Nat) :
    r.eval s [a, b] = s.take ((a : Int) + k).toNat ++ c.toList ++ s.drop ((b : Int) + j).toNat := by
  unfold balShape at h
  split at h
  · cases h
    simp [Recipe.eval, Piece.eval, Bound.eval, pySlice_zero, pySlice_len]
  · cases h
    simp [Recipe.eval, Piece.eval, Bound.eval, pySlice_zero, pySlice_len]
  · cases h

theorem onlyShape_eval (r : Recipe) (h : onlyShape r = true) (s : Text) (a b : Nat) :
    r.eval s [a, b] = s.take a ++ pySlice s (a + 1) (b - 1) ++ s.drop b := by
  unfold onlyShape at h
  split at h
  · simp [Recipe.eval, Piece.eval, Bound.eval, pySlice_zero, pySlice_len]
    congr 2
    omega
  · cases h

/-- a deleting recipe: one of the two shapes, with no inserted text -/
def deletingShape (r : Recipe) : Bool :=
  match balShape r with
  | some (k, c, j) => decide (0 ≤ k ∧ j ≤ 0 ∧ k - j ≤ 2 ∧ c.length = 0)
  | none => onlyShape r

theorem deleting_eval_sublist (r : Recipe) (h : deletingShape r = true) (s : Text) (a e : Nat) (h1 : a + 2 ≤ e) :
    (r.eval s [a, e]).Sublist s := by
  unfold deletingShape at h
  cases hb : balShape r with
  | some kcj =>
    obtain ⟨k, c, j⟩ := kcj
    rw [hb] at h
    simp only [decide_eq_true_eq] at h
    obtain ⟨hk, hj, hsum, hc0⟩ := h
    rw [balShape_eval r k j c hb s a e]
    have : c.toList = [] := List.eq_nil_of_length_eq_zero (by simpa using hc0)
    rw [this, List.append_nil]
    exact cut_sublist s (by omega)
  | none =>
    rw [hb] at h
    rw [onlyShape_eval r h s a e]
    exact splice_sublist s _ a e (by omega) (slice_sublist_slice s a (a + 1) (e - 1) e (by omega) (by omega))

/-- a recipe that can only shrink the text when applied to a span of at least two characters -/
def shapeShrinks (r : Recipe) : Bool :=
  match balShape r with
  | some (k, c, j) => decide (0 ≤ k ∧ j ≤ 0 ∧ k + c.length - j ≤ 2 ∧ (c.length = 0 ∨ k + c.length - j < 2))
  | none => onlyShape r

theorem balanced_recipes_shrink : Gen.balancedCfg.all (fun x => shapeShrinks x.2.2.2.2) = true := by decide +kernel

theorem shape_len (r : Recipe) (h : shapeShrinks r = true) (s : Text) (a e : Nat) (h1 : a + 2 ≤ e) (h2 : e ≤ s.length) :
    (r.eval s [a, e]).length < s.length ∨ r.eval s [a, e] = s := by
  by_cases hd : deletingShape r = true
  · -- a subsequence is shorter or the same
    have hs := deleting_eval_sublist r hd s a e h1
    exact (Nat.lt_or_eq_of_le hs.length_le).imp id hs.eq_of_length
  · unfold shapeShrinks at h
    unfold deletingShape at hd
    cases hb : balShape r with
    | none => rw [hb] at h hd; exact absurd h hd
    | some kcj =>
      obtain ⟨k, c, j⟩ := kcj
      rw [hb] at h hd
      simp only [decide_eq_true_eq] at h hd
      obtain ⟨hk, hj, hsum, hstrict⟩ := h
      -- not deleting: a character is inserted, and at least two are cut out
      have hlt := hstrict.resolve_left fun h0 => hd ⟨hk, hj, by omega, h0⟩
      rw [balShape_eval r k j c hb s a e]
      exact .inl (splice_length_lt s _ _ _ (by omega) (by omega) (by rw [String.length_toList]; omega))

theorem balLoop_ok (cfg : BalCfg) (s : Text) : ∀ (fuel : Nat) (st : Span) (out : Text) (st' : Span),
    balTransformLoop cfg s fuel st = (.ok, out, st') →
    out = cfg.recipe.eval s [st'.1, st'.2] ∧ out ≠ s ∧ st.1 ≤ st'.1 ∧ (BalI s st → BalI s st') := by
  intro fuel
  induction fuel with
  | zero => intro st out st' h; cases h
  | succ f ih =>
    intro st out st' h
    simp only [balTransformLoop] at h
    split at h
    · rename_i hne
      cases h
      exact ⟨rfl, hne, Nat.le_refl _, id⟩
    · split at h
      · cases h
      · rename_i st1 hf
        obtain ⟨p1, p2⟩ := balFind_span cfg s _ st1 hf
        obtain ⟨i1, i2, i3, i4⟩ := ih st1 out st' h
        exact ⟨i1, i2, by omega, fun _ => i4 p2⟩

def balMu (s : Text) (st : Span) : Nat := 2 * s.length + 1 - st.1

theorem balanced_measured (cfg : BalCfg) (hsh : shapeShrinks cfg.recipe = true) (key : Nat) (maxT : Option Nat) :
    Measured ((balanced cfg).toI key maxT) BalI balMu where
  newI := fun s st h => (balFind_span cfg s 0 st h).2
  advI := fun s st st' _ h => (balFind_span cfg s _ st' h).2
  accI := fun s st s2 st2 st' _ _ h => (balFind_span cfg s2 _ st' h).2
  adv := by
    intro s st st' hI h
    have := balFind_span cfg s _ st' h
    unfold BalI at hI this
    show 2 * _ + 1 - _ < 2 * _ + 1 - _
    omega
  acc := by
    intro s st s2 st2 st' hI htr h
    have sp := balFind_span cfg s2 _ st' h
    obtain ⟨l1, l2, l3, l4⟩ := balLoop_ok cfg s _ st s2 st2 htr
    have l4 := l4 hI
    have hlen : s2.length < s.length := by
      rcases shape_len cfg.recipe hsh s st2.1 st2.2 l4.1 l4.2 with h' | h'
      · rw [l1]; exact h'
      · exact absurd (l1.trans h') l2
    unfold BalI at hI sp
    show 2 * _ + 1 - _ < 2 * _ + 1 - _
    omega

theorem balanced_bound (cfg : BalCfg) (hsh : shapeShrinks cfg.recipe = true) (hist : List Bool) (s : Text) (st : Span)
    (hnew : (balanced cfg).new s = some st) :
    (runHistory (balanced cfg) hist s (some st) []).1.length ≤ 2 * s.length + 2 := by
  have key := drive_bound_measured (balanced cfg) 0 none BalI balMu (balanced_measured cfg hsh 0 none) hist s st []
    (balFind_span cfg s 0 st hnew).2
  have : balMu s st ≤ 2 * s.length + 1 := Nat.sub_le _ _
  simp only [List.length_nil] at key
  omega

theorem balCfg_shrinks (arg : String) (cfg : BalCfg) (hc : balCfg arg = some cfg) : shapeShrinks cfg.recipe = true := by
  unfold balCfg at hc
  simp only [Option.map_eq_some_iff] at hc
  obtain ⟨⟨a, o, c, pre, r⟩, hf, rfl⟩ := hc
  exact List.all_eq_true.mp balanced_recipes_shrink _ (List.mem_of_find?_eq_some hf)

end Cvise.P
