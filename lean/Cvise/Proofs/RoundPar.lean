import Cvise.Model.Round
/-! C02 for the scheduling skeleton: under the contract the speculative round returns what the sequential scan returns, for
    every completion schedule.  The invariant of the loop (`WBon.loop_eq`): at iteration `t` with futures `futs` in flight, what the
    round will return is the reference scan `seqOn` over `futs` followed by the candidates `t, …, m − 1` not yet started. -/
namespace Cvise.R

/-- reference scan over an explicit list of candidate indices -/
def seqOn (res : Nat → Verdict) : List Nat → Option Nat
  | [] => none
  | i :: rest => match res i with
    | .accept => some i
    | .ignore => seqOn res rest
    | _ => none

/-- contract: no timeouts, and a quit is followed (in index order) only by quits -/
structure WB (res : Nat → Verdict) : Prop where
  noTimeout : ∀ i, res i ≠ .timeout
  quitSuffix : ∀ i j, i < j → res i = .quit → res j = .quit

/-- the contract asked of the candidates in `S` only: a round of `m` candidates never looks at a verdict beyond `m` -/
structure WBon (S : Nat → Prop) (res : Nat → Verdict) : Prop where
  noTimeout : ∀ i, S i → res i ≠ .timeout
  quitSuffix : ∀ i j, S i → S j → i < j → res i = .quit → res j = .quit

theorem WB.on {res} (wb : WB res) (S : Nat → Prop) : WBon S res :=
  ⟨fun i _ => wb.noTimeout i, fun i j _ _ => wb.quitSuffix i j⟩

theorem seqOn_append_ignore (res) (A B : List Nat) (h : ∀ a ∈ A, res a = .ignore) :
    seqOn res (A ++ B) = seqOn res B := by
  induction A with
  | nil => rfl
  | cons a A ih =>
    have ha := h a (by simp)
    simp only [List.cons_append, seqOn, ha]
    exact ih (fun x hx => h x (by simp [hx]))

theorem wfs_none (res) : ∀ (L : List Nat), (∀ j ∈ L, res j ≠ .accept) → wfs res L = none := by
  intro L hL
  induction L with
  | nil => rfl
  | cons j L ih =>
    simp only [wfs, hL j List.mem_cons_self, if_false]
    exact ih (fun x hx => hL x (List.mem_cons_of_mem _ hx))

theorem WBon.wfs_eq {S res} (wb : WBon S res) :
    ∀ (L : List Nat), (∀ i ∈ L, S i) → L.Pairwise (· < ·) → wfs res L = seqOn res L := by
  intro L hL hs
  induction L with
  | nil => rfl
  | cons i L ih =>
    have hs' := List.pairwise_cons.mp hs
    have hi := hL i List.mem_cons_self
    have hL' := fun j hj => hL j (List.mem_cons_of_mem _ hj)
    simp only [wfs, seqOn]
    cases hri : res i with
    | accept => simp
    | ignore => simpa using ih hL' hs'.2
    | timeout => exact absurd hri (wb.noTimeout i hi)
    | quit =>
      -- all later candidates are QUIT as well, so `wfs` finds nothing
      simpa using wfs_none res L fun j hj => by simp [wb.quitSuffix i j hi (hL' j hj) (hs'.1 j hj) hri]

theorem wfs_eq_seqOn (res) (wb : WB res) : ∀ (L : List Nat), L.Pairwise (· < ·) → wfs res L = seqOn res L :=
  fun L hs => (wb.on fun _ => True).wfs_eq L (fun _ _ => trivial) hs

theorem processDone_true (MAXT : Nat) (done res) : ∀ (L : List Nat) (tc : Nat), processDone MAXT done res L tc true = ([], tc, true) := by
  intro L
  induction L with
  | nil => intro tc; rfl
  | cons i L ih => intro tc; simp [processDone, ih]

theorem processDone_sublist (MAXT : Nat) (done res) :
    ∀ (L : List Nat) (tc : Nat) (q : Bool), (processDone MAXT done res L tc q).1.Sublist L := by
  intro L
  induction L with
  | nil => intro tc q; exact .slnil
  | cons i L ih =>
    intro tc q
    simp only [processDone]
    split
    · exact (ih _ _).cons _
    · split
      · split <;> first | exact (ih _ _).cons_cons _ | exact (ih _ _).cons _
      · exact (ih _ _).cons_cons _

/-- what one scan does to the reference answer: the kept futures, followed by the candidates `X` still to come unless
    the scan quits, have the reference answer of the whole enumeration -/
theorem processDone_seqOn (MAXT : Nat) (done res) (X : List Nat) :
    ∀ (L : List Nat) (tc : Nat), (∀ i ∈ L, res i ≠ .timeout) →
      let r := processDone MAXT done res L tc false
      seqOn res (r.1 ++ if r.2.2 then [] else X) = seqOn res (L ++ X) := by
  intro L
  induction L with
  | nil => intro tc _; simp [processDone]
  | cons i L ih =>
    intro tc hL
    have ih := ih tc (fun j hj => hL j (List.mem_cons_of_mem _ hj))
    simp only [processDone, Bool.false_eq_true, if_false]
    by_cases hd : done i = true
    · simp only [hd, if_true]
      cases hri : res i with
      | timeout => exact absurd hri (hL i List.mem_cons_self)
      | accept => simp [processDone_true, seqOn, hri]
      | ignore => simpa [seqOn, hri] using ih
      | quit => simp [processDone_true, seqOn, hri]
    · simp only [hd, Bool.false_eq_true, if_false, List.cons_append, seqOn]
      rw [ih]

theorem processDone_spec (MAXT : Nat) (done res) (wb : WB res) (X : List Nat) :
    ∀ (L : List Nat) (tc : Nat),
      let r := processDone MAXT done res L tc false
      r.1.Sublist L ∧
      (r.2.2 = false → seqOn res (r.1 ++ X) = seqOn res (L ++ X)) ∧
      (r.2.2 = true → seqOn res r.1 = seqOn res (L ++ X)) := by
  intro L tc
  have h := processDone_seqOn MAXT done res X L tc (fun i _ => wb.noTimeout i)
  exact ⟨processDone_sublist MAXT done res L tc false, fun hq => by simpa [hq] using h, fun hq => by simpa [hq] using h⟩

theorem range'_sub_cons {t m : Nat} (h : t < m) : List.range' t (m - t) = t :: List.range' (t + 1) (m - (t + 1)) := by
  rw [show m - t = (m - (t + 1)) + 1 by omega, List.range'_succ]

theorem seqOn_range (res : Nat → Verdict) (m i : Nat) : seqOn res (List.range' i (m - i)) = seqFirst res m i := by
  fun_induction seqFirst res m i with
  | case1 i h => simp [show m - i = 0 by omega, seqOn]
  | case2 i h hr | case4 i h hr => simp [range'_sub_cons (Nat.lt_of_not_ge h), seqOn, hr]
  | case3 i h hr ih => simp [range'_sub_cons (Nat.lt_of_not_ge h), seqOn, hr, ih]

theorem seqFirst_spec (res : Nat → Verdict) (m i w : Nat) (h : seqFirst res m i = some w) :
    i ≤ w ∧ w < m ∧ res w = .accept ∧ ∀ j, i ≤ j → j < w → res j = .ignore := by
  fun_induction seqFirst res m i with
  | case1 | case4 => cases h
  | case2 i hi hr =>
    cases h
    exact ⟨Nat.le_refl _, Nat.lt_of_not_ge hi, hr, fun j h1 h2 => absurd h2 (Nat.not_lt.mpr h1)⟩
  | case3 i hi hr ih =>
    obtain ⟨a, b, c, d⟩ := ih h
    exact ⟨Nat.le_of_succ_le a, b, c, fun j h1 h2 => if hj : j = i then hj ▸ hr else d j (by omega) h2⟩

theorem WBon.loop_eq {m res} (wb : WBon (· < m) res) (MAXT : Nat) (done : Nat → Nat → Bool) (t : Nat) (futs : List Nat)
    (tc : Nat) (ht : t < m) (hs : futs.Pairwise (· < ·)) (hlt : ∀ i ∈ futs, i < t) :
    loop MAXT res done m t futs tc = seqOn res (futs ++ List.range' t (m - t)) := by
  induction hk : m - t generalizing t futs tc with
  | zero => omega
  | succ k ih =>
    have hsub := processDone_sublist MAXT (done t) res futs tc false
    have hspec := processDone_seqOn MAXT (done t) res (List.range' t (k + 1)) futs tc
      (fun i hi => wb.noTimeout i (Nat.lt_trans (hlt i hi) ht))
    unfold loop
    generalize processDone MAXT (done t) res futs tc false = r at hsub hspec
    obtain ⟨K, tc', q⟩ := r
    have hK : ∀ i ∈ K, i < t := fun i hi => hlt i (hsub.subset hi)
    cases q with
    | true =>
      rw [if_pos rfl, wb.wfs_eq K (fun i hi => Nat.lt_trans (hK i hi) ht) (hs.sublist hsub)]
      simpa using hspec
    | false =>
      -- the scan goes on with `K ++ [t]` at `t + 1`: the same enumeration as `K` at `t`
      have hsKt : (K ++ [t]).Pairwise (· < ·) := List.pairwise_append.mpr ⟨hs.sublist hsub, by simp, by simpa using hK⟩
      have hKt : ∀ i ∈ K ++ [t], i < t + 1 := by
        simp only [List.mem_append, List.mem_singleton]
        rintro i (hi | rfl)
        · exact Nat.lt_succ_of_lt (hK i hi)
        · exact Nat.lt_succ_self i
      have hnext : seqOn res ((K ++ [t]) ++ List.range' (t + 1) k) = seqOn res (futs ++ List.range' t (k + 1)) := by
        rw [← hspec, List.range'_succ]
        simp
      rw [if_neg (by simp), ← hnext]
      split
      · rw [wb.wfs_eq _ (fun i hi => by have := hKt i hi; omega) hsKt, show k = 0 by omega]
        simp
      · exact ih (t + 1) (K ++ [t]) tc' (by omega) hsKt hKt (by omega)

theorem WBon.round_eq_seq {m res} (wb : WBon (· < m) res) (MAXT : Nat) (done : Nat → Nat → Bool) (hm : 0 < m) (tc : Nat) :
    loop MAXT res done m 0 [] tc = seqFirst res m 0 := by
  rw [wb.loop_eq MAXT done 0 [] tc hm .nil (by simp)]
  simpa using seqOn_range res m 0

theorem round_par_eq_seq (MAXT : Nat) (res) (wb : WB res) (done : Nat → Nat → Bool) (m : Nat) (hm : 0 < m) (tc : Nat) :
    loop MAXT res done m 0 [] tc = seqFirst res m 0 :=
  (wb.on (· < m)).round_eq_seq MAXT done hm tc

end Cvise.R
