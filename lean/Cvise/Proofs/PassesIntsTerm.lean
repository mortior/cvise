import Cvise.Proofs.PassesIntsDiffers
import Cvise.Proofs.PassesTerm
/-!
C03 for the `finditer`-driven passes whose accepted candidates are strictly shorter (ints a, b, c; special b, c): under
every accept/reject history at most `|s|² + 4|s| + 3` candidates, by `drive_bound_lex`: `advance` uses up one modification
of the current text, an accepted candidate is shorter and `advance_on_success` recomputes at most `|s'| + 2` modifications
for it.
-/
namespace Cvise.P
open Cvise Cvise.M Cvise.D

/-- holds of every cursor the pass reaches on `s` -/
def ModI (id : Nat) (rec : List RPiece) (s : Text) (st : ModSt) : Prop := st.mods = modsOf id rec s ∧ st.index < st.mods.length

theorem modNew_inv (id : Nat) (rec : List RPiece) (s : Text) (st : ModSt) (h : modNew id rec s = some st) : ModI id rec s st := by
  obtain ⟨rfl, hne⟩ := modNew_eq_some h
  exact ⟨rfl, List.length_pos_iff.mpr hne⟩

theorem modPass_bound (id : Nat) (rec : List RPiece)
    (hshort : ∀ (s : Text), ∀ m ∈ modsOf id rec s, (s.take m.1.1 ++ m.2 ++ s.drop m.1.2).length < s.length)
    (hist : List Bool) (s : Text) (st : ModSt) (hnew : (modPass id rec).new s = some st) :
    (runHistory (modPass id rec) hist s (some st) []).1.length ≤ s.length * (s.length + 3) + s.length + 3 := by
  have left_le : ∀ s st, ModI id rec s st → st.mods.length - st.index ≤ s.length + 2 := by
    intro s st hI
    have := modsOf_length id rec s
    rw [← hI.1] at this
    omega
  have key := drive_bound_lex (modPass id rec) (ModI id rec) (fun _ st => st.mods.length - st.index) (· + 2)
    (fun _ _ h => Nat.add_le_add_right h 2) left_le
    (fun s st _ _ _ st' hI _ _ h => by
      obtain ⟨rfl, hlt⟩ := modPass_advance_eq_some h
      exact ⟨hI.1, hlt⟩)
    (fun s st s2 st2 st' _ _ h => modNew_inv id rec s2 st' h)
    (fun s st _ _ _ st' hI _ _ h => by
      obtain ⟨rfl, hlt⟩ := modPass_advance_eq_some h
      show st.mods.length - (st.index + 1) < st.mods.length - st.index
      omega)
    (fun s st s2 st2 hI htr => by
      obtain ⟨m, hm, rfl⟩ := modPass_ok id rec s st hI.1 s2 st2 htr
      exact hshort s m hm)
    hist s st [] (modNew_inv id rec s st hnew)
  have := left_le s st (modNew_inv id rec s st hnew)
  change _ ≤ 0 + (s.length * (s.length + 3) + _) + 1 at key
  omega

theorem ints_bound (arg : String) (harg : arg = "a" ∨ arg = "b" ∨ arg = "c") (hist : List Bool) (s : Text) (st : ModSt)
    (hnew : (modPass (intsEntry arg).1 (intsEntry arg).2).new s = some st) :
    (runHistory (modPass (intsEntry arg).1 (intsEntry arg).2) hist s (some st) []).1.length ≤ s.length * (s.length + 3) + s.length + 3 :=
  modPass_bound _ _ (ints_abc_shorten arg harg) hist s st hnew

theorem special_bc_bound (arg : String) (harg : arg = "b" ∨ arg = "c") (hist : List Bool) (s : Text) (st : ModSt)
    (hnew : (modPass (specialEntry arg).1 (specialEntry arg).2).new s = some st) :
    (runHistory (modPass (specialEntry arg).1 (specialEntry arg).2) hist s (some st) []).1.length ≤ s.length * (s.length + 3) + s.length + 3 :=
  modPass_bound _ _ (special_bc_shorten arg harg) hist s st hnew

end Cvise.P
