import Cvise.Model.Driver
/-! What one judgement (`check`) does: ACCEPT is possible only for `result = OK ∧ exit = 0 ∧ changed ∧ within
    max_improvement` and has no side effect (C09); a candidate that is not (OK, exit 0) is counted as failed and then
    ignored, or ends the round (`check_reject`, `giveUp`); whatever the outcome, the bookkeeping state moves by at most one
    counted failure, one saved extra directory and one bug report (`Judged`). -/
namespace Cvise.D
variable {C σ : Type}

def Side.fail (g : Side C) : Side C := { g with failed := bump g.failed g.curPass, log := g.log ++ [.fail g.curPass] }

/-- the tail of `check` for a rejected candidate (its local `fall`): past the give-up limit the round ends, with one bug
    report per round; `moved`: the candidate was just moved into a `cvise_extra_*` directory, so the report cannot copy it -/
def giveUp (cfg : Cfg) (order : Nat) (gu : Bool) (g : Side C) (moved : Bool) : Outcome × Side C × Bool :=
  if !cfg.noGiveUp && order > cfg.giveup then
    if !gu then
      let (made, g') := reportBug cfg g
      if made && moved then (.raise .fileNotFound, g', gu)
      else if made && cfg.die then (.raise (.passBug 2), g', true) else (.quit, g', true)
    else (.quit, g, gu)
  else (.ignore, g, gu)

theorem giveUp_cases (cfg : Cfg) (order : Nat) (gu : Bool) (g : Side C) (moved : Bool) :
    (giveUp cfg order gu g moved = (.ignore, g, gu) ∧ (cfg.noGiveUp = true ∨ order ≤ cfg.giveup)) ∨
    (((giveUp cfg order gu g moved).1 = .quit ∨ ∃ err, (giveUp cfg order gu g moved).1 = .raise err) ∧
      ((giveUp cfg order gu g moved).2.1 = g ∨ (giveUp cfg order gu g moved).2.1 = (reportBug cfg g).2) ∧
      cfg.noGiveUp = false ∧ order > cfg.giveup) := by
  unfold giveUp
  by_cases h : (!cfg.noGiveUp && decide (order > cfg.giveup)) = true
  · right
    have h' : cfg.noGiveUp = false ∧ order > cfg.giveup := by simpa using h
    rw [if_pos h]
    cases gu
    · simp only [Bool.not_false, if_true]
      split <;> (try split) <;> simp [h'.1, h'.2]
    · simp [h'.1, h'.2]
  · left
    rw [if_neg h]
    refine ⟨rfl, ?_⟩
    cases hn : cfg.noGiveUp
    · right; simpa [hn] using h
    · left; rfl

/-- what one judgement by `check`, or one saved timeout, can do to the bookkeeping state -/
structure Judged (cfg : Cfg) (g g' : Side C) : Prop where
  frame : g'.executed = g.executed ∧ g'.worked = g.worked ∧ g'.curPass = g.curPass ∧ g'.timeouts = g.timeouts
  failed : g'.failed = g.failed ∨ g'.failed = bump g.failed g.curPass
  bug : g'.bug = g.bug ∨ g'.bug = g.bug + 1 ∧ g.bug ≤ cfg.maxCrash
  extra : g'.extra = g.extra ∨ g'.extra = g.extra + 1 ∧ g.extra ≤ cfg.maxExtra
  log : ∃ l, g'.log = g.log ++ l ∧ ∀ e ∈ l, e = .fail g.curPass ∨ e = .bugdir ∨ e = .extradir

theorem Judged.refl (cfg : Cfg) (g : Side C) : Judged cfg g g :=
  ⟨⟨rfl, rfl, rfl, rfl⟩, .inl rfl, .inl rfl, .inl rfl, [], by simp, by simp⟩

theorem Judged.fail (cfg : Cfg) (g : Side C) : Judged cfg g g.fail :=
  ⟨⟨rfl, rfl, rfl, rfl⟩, .inr rfl, .inl rfl, .inl rfl, [.fail g.curPass], rfl, by simp⟩

theorem Judged.saveExtra {cfg : Cfg} {g g1 : Side C} (h : Judged cfg g g1) (hx : g1.extra = g.extra) :
    Judged cfg g (saveExtra cfg g1) := by
  unfold D.saveExtra
  split
  · obtain ⟨l, hl, hm⟩ := h.log
    refine ⟨h.frame, h.failed, h.bug, .inr ⟨by simp [hx], by omega⟩, l ++ [.extradir], by simp [hl], ?_⟩
    intro e he
    rcases List.mem_append.mp he with he | he
    · exact hm e he
    · simp at he; simp [he]
  · exact h

theorem Judged.reportBug {cfg : Cfg} {g g1 : Side C} (h : Judged cfg g g1) (hb : g1.bug = g.bug) :
    Judged cfg g (reportBug cfg g1).2 := by
  unfold D.reportBug
  split
  · obtain ⟨l, hl, hm⟩ := h.log
    refine ⟨h.frame, h.failed, .inr ⟨by simp [hb], by omega⟩, h.extra, l ++ [.bugdir], by simp [hl], ?_⟩
    intro e he
    rcases List.mem_append.mp he with he | he
    · exact hm e he
    · simp at he; simp [he]
  · exact h

theorem giveUp_judged {cfg : Cfg} {g g1 : Side C} (h : Judged cfg g g1) (hb : g1.bug = g.bug) (order : Nat) (gu m : Bool) :
    Judged cfg g (giveUp cfg order gu g1 m).2.1 := by
  rcases giveUp_cases cfg order gu g1 m with ⟨e, _⟩ | ⟨_, e | e, _⟩ <;> rw [e]
  · exact h
  · exact h
  · exact h.reportBug hb

variable [DecidableEq C]

theorem check_of_isAccept (cfg : Cfg) (size : C → Nat) (cur : C) (e : EnvRes C σ) (g : Side C) (gu : Bool)
    (h : isAccept cfg size cur e = true) : check cfg size cur e g gu = (.accept, g, gu) := by
  simp only [isAccept, Bool.and_eq_true, Bool.not_eq_true', decide_eq_true_eq, decide_eq_false_iff_not] at h
  obtain ⟨⟨⟨h1, h2⟩, h3⟩, h4⟩ := h
  simp only [check, h1, h2, h3, h4, and_self, if_true, if_false, Bool.false_eq_true]

theorem check_reject (cfg : Cfg) (size : C → Nat) (cur : C) (e : EnvRes C σ) (g : Side C) (gu : Bool)
    (h0 : ¬ (e.pr = .ok ∧ e.exit = some (.code 0))) :
    check cfg size cur e g gu =
      match e.pr with
      | .ok =>
        match e.exit with
        | some (.code n) =>
          let hit := match cfg.alsoInteresting with
            | some a => decide (n = a)
            | none => false
          giveUp cfg e.order gu (if hit then saveExtra cfg g.fail else g.fail) (hit && decide (g.extra ≤ cfg.maxExtra))
        | _ => (.raise .assertion, g.fail, gu)
      | .stop => (.quit, g.fail, gu)
      | .error =>
        if !cfg.silent then
          if (reportBug cfg g.fail).1 && cfg.die then (.raise (.passBug 1), (reportBug cfg g.fail).2, gu)
          else (.quit, (reportBug cfg g.fail).2, gu)
        else giveUp cfg e.order gu g.fail false
      | _ => giveUp cfg e.order gu g.fail false := by
  simp only [check, h0, if_false]
  rfl

theorem check_reject_ne_accept (cfg : Cfg) (size : C → Nat) (cur : C) (e : EnvRes C σ) (g : Side C) (gu : Bool)
    (h0 : ¬ (e.pr = .ok ∧ e.exit = some (.code 0))) : (check cfg size cur e g gu).1 ≠ .accept := by
  have gv : ∀ (g1 : Side C) m, (giveUp cfg e.order gu g1 m).1 ≠ .accept := by
    intro g1 m h
    rcases giveUp_cases cfg e.order gu g1 m with ⟨h1, _⟩ | ⟨h1 | ⟨_, h1⟩, _⟩ <;> rw [h1] at h <;> cases h
  rw [check_reject cfg size cur e g gu h0]
  split
  · split
    · exact gv _ _
    · simp
  · simp
  · split
    · split <;> simp
    · exact gv _ _
  · exact gv _ _

theorem isAccept_of_check (cfg : Cfg) (size : C → Nat) (cur : C) (e : EnvRes C σ) (g : Side C) (gu : Bool)
    (h : (check cfg size cur e g gu).1 = .accept) : isAccept cfg size cur e = true := by
  by_cases h0 : e.pr = .ok ∧ e.exit = some (.code 0)
  · simp only [check, h0, and_self, if_true] at h
    simp only [isAccept, h0.1, h0.2]
    grind
  · exact absurd h (check_reject_ne_accept cfg size cur e g gu h0)

theorem check_accept (cfg : Cfg) (size : C → Nat) (cur : C) (e : EnvRes C σ) (g g' : Side C) (gu gu' : Bool)
    (h : check cfg size cur e g gu = (.accept, g', gu')) :
    isAccept cfg size cur e = true ∧ g' = g ∧ gu' = gu := by
  have ha := isAccept_of_check cfg size cur e g gu (by rw [h])
  rw [check_of_isAccept cfg size cur e g gu ha] at h
  cases h
  exact ⟨ha, rfl, rfl⟩

/-- what ACCEPT means, spelled out (C09 `accept_requires_ok0`, C16 `step_improvement_le`) -/
theorem isAccept_iff (cfg : Cfg) (size : C → Nat) (cur : C) (e : EnvRes C σ) :
    isAccept cfg size cur e = true ↔
      e.pr = .ok ∧ e.exit = some (.code 0) ∧ e.cand ≠ cur ∧
      (∀ m, cfg.maxImp = some m → (size cur : Int) - size e.cand ≤ m) := by
  unfold isAccept
  cases hm : cfg.maxImp <;> simp <;> grind

theorem check_judged {cfg : Cfg} {size : C → Nat} {cur : C} {e : EnvRes C σ} {g g' : Side C} {gu gu' : Bool} {o : Outcome}
    (hc : check cfg size cur e g gu = (o, g', gu')) : Judged cfg g g' := by
  suffices h : Judged cfg g (check cfg size cur e g gu).2.1 by rwa [hc] at h
  by_cases h0 : e.pr = .ok ∧ e.exit = some (.code 0)
  · -- passed: nothing happens, unless the candidate is unchanged and that is reported as a pass bug
    have : (check cfg size cur e g gu).2.1 = g ∨ (check cfg size cur e g gu).2.1 = (reportBug cfg g).2 := by
      simp only [check, h0, and_self, if_true]
      grind
    rcases this with h | h <;> rw [h]
    · exact .refl cfg g
    · exact (Judged.refl cfg g).reportBug rfl
  · -- rejected: the failure is counted, the candidate may be saved as "also interesting", a report comes last
    have hf := Judged.fail cfg g
    have hx : ∀ b : Bool, Judged cfg g (if b then saveExtra cfg g.fail else g.fail) ∧
        (if b then saveExtra cfg g.fail else g.fail).bug = g.bug := by
      intro b
      cases b
      · exact ⟨hf, rfl⟩
      · exact ⟨hf.saveExtra rfl, by show (saveExtra cfg g.fail).bug = g.bug; unfold saveExtra; split <;> rfl⟩
    rw [check_reject cfg size cur e g gu h0]
    split
    · split
      · exact giveUp_judged (hx _).1 (hx _).2 _ _ _
      · exact hf
    · exact hf
    · split
      · split <;> exact hf.reportBug rfl
      · exact giveUp_judged hf rfl _ _ _
    · exact giveUp_judged hf rfl _ _ _

theorem wfs_sound (cfg : Cfg) (size : C → Nat) (cur : C) (env : Nat → EnvRes C σ) :
    ∀ (L : List Nat) (g g' : Side C) (rs : RS) (i : Nat),
      wfs cfg size cur env L g rs = .inl (some i, g') → i ∈ L ∧ isAccept cfg size cur (env i) = true := by
  intro L
  induction L with
  | nil => intro g g' rs i h; simp [wfs] at h
  | cons j L ih =>
    intro g g' rs i h
    simp only [wfs] at h
    split at h
    · obtain ⟨h1, h2⟩ := ih _ _ _ _ h; exact ⟨List.mem_cons_of_mem _ h1, h2⟩
    · cases h
    · split at h
      · rename_i hc
        cases h
        exact ⟨List.mem_cons_self, (check_accept cfg size cur (env _) _ _ _ _ hc).1⟩
      · cases h
      · obtain ⟨h1, h2⟩ := ih _ _ _ _ h; exact ⟨List.mem_cons_of_mem _ h1, h2⟩

theorem roundLoop_sound (cfg : Cfg) (size : C → Nat) (pkey : Nat) (cur : C) (env : Nat → EnvRes C σ) (more : Nat → Bool)
    (done : Nat → Nat → Bool) : ∀ (fuel t : Nat) (futs : List Nat) (g g' : Side C) (rs : RS) (i : Nat),
      roundLoop cfg size pkey cur env more done fuel t futs g rs = .inl (some i, g') →
      isAccept cfg size cur (env i) = true := by
  intro fuel
  induction fuel with
  | zero => intro t futs g g' rs i h; simp [roundLoop] at h
  | succ f ih =>
    intro t futs g g' rs i h
    simp only [roundLoop] at h
    split at h
    · cases h
    · split at h
      · exact (wfs_sound cfg size cur env _ _ _ _ _ h).2
      · split at h
        · exact ih _ _ _ _ _ _ h
        · exact (wfs_sound cfg size cur env _ _ _ _ _ h).2

end Cvise.D
