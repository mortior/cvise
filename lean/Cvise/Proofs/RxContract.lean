import Cvise.Model.MatcherRx
import Cvise.Proofs.RxBounds
import Cvise.Proofs.Matcher
/-! what `match`, `search` and `finditer` of the `Rx` engine return; the `Rx`-backed oracle satisfies the contract the matcher
    theorems assume of regular-expression parts -/
namespace Cvise.M
open Cvise

theorem toArr_size (s : List Char) : (toArr s).size = s.length := by simp [toArr]

theorem toArr_get (s : List Char) (p : Nat) (h : p < (toArr s).size) : (toArr s)[p] = (s[p]'(by simpa [toArr] using h)).toNat := by
  simp [toArr]

theorem rxMatchAt_mem {r : Rx} {s : Array Nat} {p e : Nat} {c : Caps} (h : rxMatchAt r s p = some (e, c)) :
    p ≤ s.size ∧ (e, c) ∈ ends s r p [] := by
  unfold rxMatchAt at h
  split at h
  · cases h
  · exact ⟨by omega, List.mem_of_mem_head? h⟩

theorem rxMatchAt_bounds (r : Rx) (s : Array Nat) (p e : Nat) (c : Caps) (h : rxMatchAt r s p = some (e, c)) :
    p ≤ s.size ∧ p ≤ e ∧ e ≤ s.size :=
  have ⟨hp, hm⟩ := rxMatchAt_mem h
  have hb := ends_bounds s r p [] (e, c) hm
  ⟨hp, hb.1, hb.2 hp⟩

theorem rxSearchFrom_first (r : Rx) (s : Array Nat) (p : Nat) :
    FirstFrom (·.1) (fun a m => rxMatchAt r s a = some m.2) p (s.size + 1) (rxSearchFrom r s p) := by
  fun_induction rxSearchFrom r s p with
  | case1 p h => exact fun a ha hb => by omega
  | case2 p h e c hm => exact ⟨Nat.le_refl p, hm, fun a ha (hb : a < p) => by omega⟩
  | case3 p h hm ih =>
    refine ih.skip (Nat.le_succ p) fun a ha hb m' hq => ?_
    obtain rfl : a = p := by omega
    cases hm.symm.trans hq

/-- the matches `finditer` returns are in order and do not overlap: each starts at or after the previous end -/
def Spans : Nat → List (Nat × Nat × Caps) → Prop
  | _, [] => True
  | p, (a, e, _) :: rest => p ≤ a ∧ a ≤ e ∧ Spans e rest

theorem Spans.mono {p q : Nat} (h : p ≤ q) : ∀ {ms : List (Nat × Nat × Caps)}, Spans q ms → Spans p ms
  | [], _ => trivial
  | (_, _, _) :: _, hs => ⟨Nat.le_trans h hs.1, hs.2.1, hs.2.2⟩

theorem rxFindAll_spec (r : Rx) (s : Array Nat) : ∀ (fuel p : Nat),
    (rxFindAll r s fuel p).length ≤ fuel ∧ Spans p (rxFindAll r s fuel p) ∧
    ∀ x ∈ rxFindAll r s fuel p, (x.2.1, x.2.2) ∈ ends s r x.1 [] ∧ x.2.1 ≤ s.size := by
  intro fuel
  induction fuel with
  | zero => intro p; exact ⟨Nat.le_refl _, trivial, nofun⟩
  | succ f ih =>
    intro p
    rw [rxFindAll]
    cases hs : rxSearchFrom r s p with
    | none => exact ⟨Nat.zero_le _, trivial, nofun⟩
    | some aec =>
      obtain ⟨a, e, c⟩ := aec
      obtain ⟨j1, j2, _⟩ := (rxSearchFrom_first r s p).some hs
      have hb := rxMatchAt_bounds r s a e c j2
      obtain ⟨i1, i2, i3⟩ := ih (if e = a then e + 1 else e)
      refine ⟨Nat.succ_le_succ i1, ⟨j1, hb.2.1, Spans.mono (by split <;> omega) i2⟩, ?_⟩
      intro x hx
      rcases List.mem_cons.mp hx with rfl | hx
      · exact ⟨(rxMatchAt_mem j2).2, hb.2.2⟩
      · exact i3 x hx

theorem rxOracle_cases (tbl : Array Rx) (id : Nat) :
    (∀ s p mode, rxOracle tbl id s p mode = none) ∨
    ∃ r, (∀ s p, rxOracle tbl id s p false = (rxMatchAt r (toArr s) p).map fun ec => (p, ec.1)) ∧
      ∀ s p, rxOracle tbl id s p true = (rxSearchFrom r (toArr s) p).map fun aec => (aec.1, aec.2.1) := by
  unfold rxOracle
  cases tbl[id]? with
  | none => exact .inl fun _ _ _ => rfl
  | some r => exact .inr ⟨r, fun _ _ => rfl, fun _ _ => rfl⟩

theorem rxOracle_contract (tbl : Array Rx) : RxContract (rxOracle tbl) := by
  have bounds : ∀ id s p m, rxOracle tbl id s p false = some m → m.1 = p ∧ p ≤ s.length ∧ m.1 ≤ m.2 ∧ m.2 ≤ s.length := by
    intro id s p m h
    obtain h0 | ⟨r, hf, _⟩ := rxOracle_cases tbl id
    · cases (h0 s p false).symm.trans h
    · rw [hf, Option.map_eq_some_iff] at h
      obtain ⟨⟨e, c⟩, hm, rfl⟩ := h
      have := rxMatchAt_bounds r (toArr s) p e c hm
      rw [toArr_size] at this
      exact ⟨rfl, this⟩
  refine {
    matchStart := fun id s p m h => have b := bounds id s p m h; ⟨b.1, b.2.1, b.2.2.1⟩
    matchEnd := fun id s p m h => (bounds id s p m h).2.2.2
    searchSome := fun id s p m h => ?_
    searchNone := fun id s p h a h1 h2 => ?_ }
  · obtain h0 | ⟨r, hf, ht⟩ := rxOracle_cases tbl id
    · cases (h0 s p true).symm.trans h
    · rw [ht, Option.map_eq_some_iff] at h
      obtain ⟨⟨a, e, c⟩, hs, rfl⟩ := h
      obtain ⟨j1, j2, j3⟩ := (rxSearchFrom_first r (toArr s) p).some hs
      refine ⟨j1, by rw [hf, j2]; rfl, fun a' h1 h2 => ?_⟩
      -- `j3` denies every `m'`; the position in `m'` is not looked at, so any will do
      rw [hf, Option.eq_none_iff_forall_ne_some.mpr fun ec => j3 a' h1 h2 (0, ec)]
      rfl
  · obtain h0 | ⟨r, hf, ht⟩ := rxOracle_cases tbl id
    · exact h0 s a false
    · rw [ht, Option.map_eq_none_iff] at h
      have j := (rxSearchFrom_first r (toArr s) p).none h a h1 (by rw [toArr_size]; omega)
      rw [hf, Option.eq_none_iff_forall_ne_some.mpr fun ec => j (0, ec)]
      rfl

end Cvise.M
