import Cvise.Proofs.DriverSim
import Cvise.Proofs.DriverCounters
/-! C02 for whole runs: with well-behaved passes the files, the replay table and the control flow of `run_pass` /
    `reduce` do not depend on the schedule oracle. -/
namespace Cvise.D
variable {C σ : Type} [DecidableEq C] [Inhabited σ] [Inhabited C]

/-- a pass is well-behaved in a world: every round it can start is finite, all its candidates are tame, and STOP
    occurs only as a suffix of the enumeration -/
def GoodPass (cfg : Cfg) (W : World C) (P : PassI C σ) : Prop :=
  ∀ (disk : List C) (k : Nat) (s : σ) (rid : Nat),
    ∃ m, 0 < m ∧ m ≤ cfg.giveup + 1000 ∧
      (∀ t, (nthState P (disk.getD k default) s t).isSome = decide (t < m)) ∧
      (∀ i, i < m → Tame cfg (disk.getD k default) (envOf W P disk k (disk.getD k default) s rid i)) ∧
      (∀ i j, i < j → j < m → (envOf W P disk k (disk.getD k default) s rid i).pr = .stop →
        (envOf W P disk k (disk.getD k default) s rid j).pr = .stop)

/-- what the control flow depends on, and the accepted steps logged (for `C02.accepted_sequence_schedule_irrelevant`) -/
def Sim (x y : St C) : Prop :=
  x.disk = y.disk ∧ x.cache = y.cache ∧ x.leftover = y.leftover ∧ commits x.side.log = commits y.side.log

def SimR (r r' : LRes C) : Prop :=
  match r, r' with
  | .inl (x, a), .inl (y, b) => Sim x y ∧ a = b
  | .inr (e, x), .inr (e', y) => e = e' ∧ Sim x y
  | _, _ => False

theorem SimR.refl_of (x y : St C) (a : Nat) (h : Sim x y) : SimR (.inl (x, a)) (.inl (y, a)) := ⟨h, rfl⟩

omit [Inhabited σ] [Inhabited C] in
theorem Sim.commitWinner {x y : St C} {g1 g2 : Side C} (h : Sim x y) (hc : commits g1.log = commits g2.log) (P : PassI C σ)
    (k : Nat) (e : EnvRes C σ) : Sim (commitWinner P x k e g1) (commitWinner P y k e g2) := by
  refine ⟨by simp only [D.commitWinner, commitSt, h.1], h.2.1, h.2.2.1, ?_⟩
  show commits (g1.log ++ _ ++ _) = commits (g2.log ++ _ ++ _)
  rw [commits_commit _ _ (commits_tested ?_), commits_commit _ _ (commits_tested ?_), hc]
  all_goals intro ev he; split at he <;> simp at he; exact ⟨_, _, he⟩

theorem fileLoop_schedule_irrelevant (cfg : Cfg) (W : World C) (P : PassI C σ) (hg : GoodPass cfg W P)
    (d d' : Sched) (k startSize : Nat) :
    ∀ (fuel rid : Nat) (s : σ) (succ : Nat) (x y : St C), Sim x y →
      SimR (fileLoop cfg W d P k startSize fuel rid s succ x) (fileLoop cfg W d' P k startSize fuel rid s succ y) := by
  intro fuel
  induction fuel with
  | zero => intro rid s succ x y h; exact ⟨h, rfl⟩
  | succ f ih =>
    intro rid s succ x y h
    obtain ⟨h1, h2, h3, h4⟩ := h
    rw [fileLoop_succ, fileLoop_succ, ← h1, ← h3]
    split
    · exact ⟨rfl, h1, h2, h3, h4⟩
    · -- both rounds return the first interesting candidate, whatever their schedules
      obtain ⟨m, hm0, hmf, hmore, htame, hstop⟩ := hg x.disk k s rid
      rw [show (fun t => (nthState P (x.disk.getD k default) s t).isSome) = fun t => decide (t < m) from funext hmore]
      obtain ⟨g1, e1⟩ := round_winner_eq_seq cfg W.size P.key (x.disk.getD k default)
        (envOf W P x.disk k (x.disk.getD k default) s rid) (d rid) m hm0 htame hstop (cfg.giveup + 1000) hmf x.side
      obtain ⟨g2, e2⟩ := round_winner_eq_seq cfg W.size P.key (x.disk.getD k default)
        (envOf W P x.disk k (x.disk.getD k default) s rid) (d' rid) m hm0 htame hstop (cfg.giveup + 1000) hmf y.side
      have c12 : commits g1.log = commits g2.log := by
        have c1 := roundLoop_commits cfg W.size P.key (x.disk.getD k default) (envOf W P x.disk k (x.disk.getD k default) s rid)
          (fun t => decide (t < m)) (d rid) (cfg.giveup + 1000) 0 [] x.side {}
        have c2 := roundLoop_commits cfg W.size P.key (x.disk.getD k default) (envOf W P x.disk k (x.disk.getD k default) s rid)
          (fun t => decide (t < m)) (d' rid) (cfg.giveup + 1000) 0 [] y.side {}
        rw [e1] at c1; rw [e2] at c2
        exact c1.trans (h4.trans c2.symm)
      rw [e1, e2]
      cases R.seqFirst (fun i => vd cfg W.size (x.disk.getD k default) (envOf W P x.disk k (x.disk.getD k default) s rid i)) m 0 with
      | none => exact ⟨⟨rfl, h2, rfl, c12⟩, rfl⟩
      | some i =>
        have hs := Sim.commitWinner ⟨h1, h2, h3, h4⟩ c12 P k (envOf W P x.disk k (x.disk.getD k default) s rid i)
        exact afterCommit_rel rfl rfl rfl ⟨⟨hs.1, hs.2.1, rfl, hs.2.2.2⟩, rfl⟩ ⟨hs, rfl⟩ (fun s' _ _ => ih _ _ _ _ _ hs)

theorem fileStep_schedule_irrelevant (cfg : Cfg) (W : World C) (P : PassI C σ) (hg : GoodPass cfg W P)
    (d d' : Sched) (fuel : Nat) (acc acc' : LRes C) (k : Nat) (h : SimR acc acc') :
    SimR (fileStep cfg W d P fuel acc k) (fileStep cfg W d' P fuel acc' k) := by
  unfold fileStep
  rcases acc with ⟨x, a⟩ | ⟨e, x⟩ <;> rcases acc' with ⟨y, b⟩ | ⟨e', y⟩ <;> simp only [SimR] at h
  · obtain ⟨⟨h1, h2, h3, h4⟩, hab⟩ := h
    subst hab
    simp only
    rw [← h1, ← h2]
    -- `by_cases` and `generalize`, not `split`: splitting a goal that has the case distinction on both sides is dear
    by_cases hz : W.size (x.disk.getD k default) = 0
    · rw [if_pos hz, if_pos hz]
      exact ⟨⟨h1, h2, h3, h4⟩, rfl⟩
    · rw [if_neg hz, if_neg hz]
      generalize (if cfg.cacheOn = true then _ else none : Option C) = l
      rcases l with _ | after
      rotate_left
      · refine ⟨⟨by simp [h1], by simp [h2], by simp [h3], ?_⟩, rfl⟩
        simp only [commits_append, h4]
      · have hn : SimR (newLoop cfg W d P k fuel a x (x.disk.getD k default)) (newLoop cfg W d' P k fuel a y (x.disk.getD k default)) := by
          unfold newLoop
          obtain ⟨c1, c2⟩ := fmtStep_congr W P x y k (x.disk.getD k default) h1
          have fx := fmtStep_frame W P x k (x.disk.getD k default)
          have fy := fmtStep_frame W P y k (x.disk.getD k default)
          have hs : Sim (fmtStep W P x k (x.disk.getD k default)).1 (fmtStep W P y k (x.disk.getD k default)).1 :=
            ⟨c2, by rw [fx.2.1, fy.2.1, h2], by rw [fx.2.2, fy.2.2, h3], by rw [fx.1, fy.1, h4]⟩
          rw [← c1]
          split
          · exact ⟨hs, rfl⟩
          · split
            · exact ⟨hs, rfl⟩
            · exact fileLoop_schedule_irrelevant cfg W P hg d d' k _ fuel a _ 0 _ _ hs
        generalize newLoop cfg W d P k fuel a x (x.disk.getD k default) = r at hn ⊢
        generalize newLoop cfg W d' P k fuel a y (x.disk.getD k default) = r' at hn ⊢
        rcases r with ⟨x1, a1⟩ | ⟨e1, x1⟩ <;> rcases r' with ⟨y1, b1⟩ | ⟨e2, y1⟩ <;> simp only [SimR] at hn
        · obtain ⟨⟨g1, g2, g3, g4⟩, hab⟩ := hn
          subst hab
          simp only
          split
          · exact ⟨⟨g1, by simp [g1, g2], g3, g4⟩, rfl⟩
          · exact ⟨⟨g1, g2, g3, g4⟩, rfl⟩
        · exact hn
  · exact h

omit [DecidableEq C] [Inhabited C] in
theorem SimR.agree {r r' : LRes C} (h : SimR r r') : LRes.Agree r r' := by
  rcases r with ⟨x, a⟩ | e <;> rcases r' with ⟨y, b⟩ | e'
  · exact h.1.1
  · exact h
  · exact h
  · trivial

theorem reduce_schedule_irrelevant (cfg : Cfg) (W : World C) (d d' : Sched) (orderOf : List C → List Nat) (fuel : Nat)
    (first main last : List (PassI C σ))
    (hg : ∀ P, P ∈ first ∨ P ∈ main ∨ P ∈ last → GoodPass cfg W P) (x : St C) :
    SimR (reduce cfg W d orderOf fuel first main last x) (reduce cfg W d' orderOf fuel first main last x) := by
  refine reduce_rel SimR (fun _ _ => SimR.agree) first main last ?_ x ⟨⟨rfl, rfl, rfl, rfl⟩, rfl⟩
  intro P hP x a y b ⟨⟨h1, h2, h3, h4⟩, hab⟩
  rw [← h1, ← hab]
  have hs : Sim (x.enter P) (y.enter P) := ⟨h1, h2, rfl, h4⟩
  exact runPass_rel SimR P _ a a x y (by rw [h1]) ⟨rfl, hs⟩ ⟨hs, rfl⟩
    (fun r r' k _ hr => fileStep_schedule_irrelevant cfg W P (hg P hP) d d' fuel r r' k hr)

end Cvise.D
