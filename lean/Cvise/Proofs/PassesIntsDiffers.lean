import Cvise.Proofs.RxShape
import Cvise.Proofs.PassesC07
import Cvise.Proofs.RxContract
/-!
C07 "every candidate differs from its input" for the `finditer`-driven passes (ints, special).  A candidate is a splice
`s[:a] ++ r ++ s[e:]` of a match `a–e`; it equals `s` only if `r` is the matched text (`splice_eq`).  Where the replacement
re-assembles the match from some of its named groups (ints a, b, c) the regex is a flat sequence of items and an item left
out consumes at least one character, so the candidate is strictly shorter (`flat_shorter`); special b, c delete a match
that is never empty; ints d and special a put a character into the match that does not stand there.
-/

namespace Cvise.P
open Cvise Cvise.M

theorem mem_modsOf {id : Nat} {rec : List RPiece} {s : Text} {m : Span × Text} (hm : m ∈ modsOf id rec s) :
    ∃ a e c, m = ((a, e), rec.flatMap (evalRPiece s c)) ∧ (e, c) ∈ ends (toArr s) (rxTbl id) a [] ∧ a ≤ e ∧ e ≤ s.length := by
  obtain ⟨⟨a, e, c⟩, hmem, rfl⟩ := List.mem_map.mp (List.mem_reverse.mp hm)
  obtain ⟨h1, h2⟩ := (rxFindAll_spec _ _ _ _).2.2 _ hmem
  exact ⟨a, e, c, rfl, h1, (ends_bounds _ _ _ _ _ h1).1, toArr_size s ▸ h2⟩

theorem modsOf_length (id : Nat) (rec : List RPiece) (s : Text) : (modsOf id rec s).length ≤ s.length + 2 := by
  rw [modsOf, List.length_reverse, List.length_map]
  exact (rxFindAll_spec _ _ _ _).1

theorem modNew_eq_some {id : Nat} {rec : List RPiece} {s : Text} {st : ModSt} (h : modNew id rec s = some st) :
    st = ⟨modsOf id rec s, 0⟩ ∧ modsOf id rec s ≠ [] := by
  unfold modNew at h
  by_cases he : (modsOf id rec s).isEmpty = true
  · rw [if_pos he] at h; cases h
  · rw [if_neg he] at h; exact ⟨(Option.some.inj h).symm, fun h0 => he (h0 ▸ rfl)⟩

theorem modPass_advance_eq_some {id : Nat} {rec : List RPiece} {s : Text} {st st' : ModSt}
    (h : (modPass id rec).advance s st = some st') : st' = { st with index := st.index + 1 } ∧ st.index + 1 < st.mods.length := by
  simp only [modPass] at h
  by_cases hi : st.index + 1 ≥ st.mods.length
  · rw [if_pos hi] at h; cases h
  · rw [if_neg hi] at h; exact ⟨(Option.some.inj h).symm, Nat.lt_of_not_ge hi⟩

theorem modPass_transform_ok {id : Nat} {rec : List RPiece} {s out : Text} {st st' : ModSt}
    (h : (modPass id rec).transform s st = (.ok, out, st')) :
    ∃ a e r, st.mods[st.index]? = some ((a, e), r) ∧ out = s.take a ++ r ++ s.drop e ∧ st' = st := by
  simp only [modPass] at h
  cases hg : st.mods[st.index]? with
  | none => rw [hg] at h; cases h
  | some m => obtain ⟨⟨a, e⟩, r⟩ := m; rw [hg] at h; cases h; exact ⟨a, e, r, rfl, rfl, rfl⟩

theorem modPass_ok (id : Nat) (rec : List RPiece) (s : Text) (st : ModSt) (hst : st.mods = modsOf id rec s) (out : Text) (st' : ModSt)
    (h : (modPass id rec).transform s st = (.ok, out, st')) :
    ∃ m ∈ modsOf id rec s, out = s.take m.1.1 ++ m.2 ++ s.drop m.1.2 := by
  obtain ⟨a, e, r, hg, rfl, -⟩ := modPass_transform_ok h
  exact ⟨((a, e), r), hst ▸ List.mem_of_getElem? hg, rfl⟩

theorem mods_shorten (id : Nat) (rec : List RPiece) (s : Text)
    (hshort : ∀ a e c, (e, c) ∈ ends (toArr s) (rxTbl id) a [] → e ≤ s.length → (rec.flatMap (evalRPiece s c)).length < e - a) :
    ∀ m ∈ modsOf id rec s, (s.take m.1.1 ++ m.2 ++ s.drop m.1.2).length < s.length := by
  intro m hm
  obtain ⟨a, e, c, rfl, h1, h2, h3⟩ := mem_modsOf hm
  exact splice_length_lt s _ a e h2 h3 (hshort a e c h1 h3)

theorem grpText_of_capOf (s : Text) {c : Caps} {id a e : Nat} (h : capOf c id = some (a, e)) :
    grpText s c id = (s.take e).drop a := by
  unfold grpText; rw [h]

/-- `Kept its keep d`: `keep` names some of the groups of `its`, in order; the items left out consume at least `d` -/
inductive Kept : List It → List Nat → Nat → Prop
  | nil : Kept [] [] 0
  | keep {id : Nat} {r : Rx} {its : List It} {ks : List Nat} {d : Nat} : Kept its ks d → Kept (.g id r :: its) (id :: ks) d
  | drop {it : It} {its : List It} {ks : List Nat} {d : Nat} (n : Nat) : MinLen it.inner n → Kept its ks d → Kept (it :: its) ks (d + n)

theorem nodup_gids_tail {it : It} {its : List It} (h : (gids (it :: its)).Nodup) : (gids its).Nodup := by
  cases it
  · exact (List.nodup_cons.mp h).2
  · exact h

/-- the kept groups, concatenated, fit between the start and the end of the match with `d` to spare; the group ids of the
    sequence are distinct so that each id finds its own capture -/
theorem flat_kept (s : Text) {its : List It} {keep : List Nat} {d : Nat} (hk : Kept its keep d) :
    ∀ (p : Nat) (qs : List Nat) (c : Caps), (gids its).Nodup → Bounds (toArr s) its p qs → lastOr p qs ≤ s.length →
    p + ((keep.map RPiece.grp).flatMap (evalRPiece s (flatCaps its p qs ++ c))).length + d ≤ lastOr p qs := by
  induction hk with
  | nil => intro p qs c _ hb _; cases (show qs = [] from hb); exact Nat.le_refl _
  | @keep id r its ks d _ ih =>
    intro p qs c hnd hb he
    obtain ⟨q, qs, rfl, b1, -, -, b3⟩ := hb.cons
    rw [lastOr_cons] at he ⊢
    have hnd := List.nodup_cons.mp hnd
    have := ih q qs ((It.g id r).cap p q ++ c) hnd.2 b3 he
    have hc : capOf (flatCaps its q qs ++ ((It.g id r).cap p q ++ c)) id = some (p, q) := by
      rw [capOf_flatCaps_of_not_mem id its q qs _ hnd.1, It.cap, List.singleton_append, capOf_cons, if_pos rfl]
    rw [flatCaps_cons, List.append_assoc, List.map_cons, List.flatMap_cons, List.length_append, evalRPiece,
      grpText_of_capOf s hc, slice_length s p q (by omega)]
    omega
  | @drop it its ks d n hmin _ ih =>
    intro p qs c hnd hb he
    obtain ⟨q, qs, rfl, -, b2, -, b3⟩ := hb.cons
    rw [lastOr_cons] at he ⊢
    rw [flatCaps_cons, List.append_assoc]
    have := ih q qs (it.cap p q ++ c) (nodup_gids_tail hnd) b3 he
    have := b2 n hmin
    omega

theorem flat_shorter (s : Text) (its : List It) (keep : List Nat) {d : Nat} (hk : Kept its keep (d + 1)) (hf : Flat its)
    (hnd : (gids its).Nodup) (a e : Nat) (c : Caps) (hm : (e, c) ∈ ends (toArr s) (.seq (its.map It.rx)) a [])
    (he : e ≤ s.length) : ((keep.map RPiece.grp).flatMap (evalRPiece s c)).length < e - a := by
  rw [ends] at hm
  obtain ⟨qs, hb, rfl, rfl⟩ := endsSeq_flat _ its a [] (e, c) hf hm
  have := flat_kept s hk a qs [] hnd hb he
  omega

/-- `G₁ X G₂ G₃` with replacement `G₁ G₂ G₃` (ints a: the first digit is dropped) -/
def shapeA (r : Rx) : Prop := ∃ A X B C, r = .seq [.grp 1 A, X, .grp 2 B, .grp 3 C] ∧
  CapsStable A ∧ CapsStable X ∧ CapsStable B ∧ CapsStable C ∧ MinLen X 1
/-- `G₁ G₂ G₃ G₄` with replacement `G₁ G₃ G₄` (ints b: the prefix group is dropped) -/
def shapeB (r : Rx) : Prop := ∃ A D B C, r = .seq [.grp 1 A, .grp 2 D, .grp 3 B, .grp 4 C] ∧
  CapsStable A ∧ CapsStable D ∧ CapsStable B ∧ CapsStable C ∧ MinLen D 1
/-- `G₁ G₂ X G₃` with replacement `G₁ G₂ G₃` (ints c: the suffix letters are dropped) -/
def shapeC (r : Rx) : Prop := ∃ A B X C, r = .seq [.grp 1 A, .grp 2 B, X, .grp 3 C] ∧
  CapsStable A ∧ CapsStable B ∧ CapsStable X ∧ CapsStable C ∧ MinLen X 1

theorem shapeA_shorter (r : Rx) (h : shapeA r) (s : Text) (a e : Nat) (c : Caps)
    (hm : (e, c) ∈ ends (toArr s) r a []) (he : e ≤ s.length) :
    ([RPiece.grp 1, .grp 2, .grp 3].flatMap (evalRPiece s c)).length < e - a := by
  obtain ⟨A, X, B, C, rfl, hA, hX, hB, hC, hmin⟩ := h
  exact flat_shorter s [.g 1 A, .p X, .g 2 B, .g 3 C] [1, 2, 3] (.keep (.drop 1 hmin (.keep (.keep .nil))))
    (flat_cons hA (flat_cons hX (flat_cons hB (flat_cons hC flat_nil)))) (by decide : [1, 2, 3].Nodup) a e c hm he

theorem shapeB_shorter (r : Rx) (h : shapeB r) (s : Text) (a e : Nat) (c : Caps)
    (hm : (e, c) ∈ ends (toArr s) r a []) (he : e ≤ s.length) :
    ([RPiece.grp 1, .grp 3, .grp 4].flatMap (evalRPiece s c)).length < e - a := by
  obtain ⟨A, D, B, C, rfl, hA, hD, hB, hC, hmin⟩ := h
  exact flat_shorter s [.g 1 A, .g 2 D, .g 3 B, .g 4 C] [1, 3, 4] (.keep (.drop 1 hmin (.keep (.keep .nil))))
    (flat_cons hA (flat_cons hD (flat_cons hB (flat_cons hC flat_nil)))) (by decide : [1, 2, 3, 4].Nodup) a e c hm he

theorem shapeC_shorter (r : Rx) (h : shapeC r) (s : Text) (a e : Nat) (c : Caps)
    (hm : (e, c) ∈ ends (toArr s) r a []) (he : e ≤ s.length) :
    ([RPiece.grp 1, .grp 2, .grp 3].flatMap (evalRPiece s c)).length < e - a := by
  obtain ⟨A, B, X, C, rfl, hA, hB, hX, hC, hmin⟩ := h
  exact flat_shorter s [.g 1 A, .g 2 B, .p X, .g 3 C] [1, 2, 3] (.keep (.keep (.drop 1 hmin (.keep .nil))))
    (flat_cons hA (flat_cons hB (flat_cons hX (flat_cons hC flat_nil)))) (by decide : [1, 2, 3].Nodup) a e c hm he

/-- the regex id and replacement recipe the generated table gives an ints argument (`C07.ints_special_passes`: the model's
    `intsPass arg` is `modPass` of this entry) -/
def intsEntry (arg : String) : Nat × List RPiece := ((Gen.intsCfg.find? (·.1 = arg)).map (·.2)).getD (0, [])

def specialEntry (arg : String) : Nat × List RPiece := ((Gen.specialCfg.find? (·.1 = arg)).map (·.2)).getD (0, [])

theorem ints_a_shape : (intsEntry "a").2 = [.grp 1, .grp 2, .grp 3] ∧ shapeA (rxTbl (intsEntry "a").1) := by
  refine ⟨by decide, _, _, _, _, by rfl, ?_, ?_, ?_, ?_, minLen_cls _ _⟩
  all_goals exact capsStable_of_capFree _ (by decide)

theorem ints_b_shape : (intsEntry "b").2 = [.grp 1, .grp 3, .grp 4] ∧ shapeB (rxTbl (intsEntry "b").1) := by
  refine ⟨by decide, _, _, _, _, by rfl, ?_, ?_, ?_, ?_, ?_⟩
  · exact capsStable_of_capFree _ (by decide)
  · exact capsStable_of_capFree _ (by decide)
  · exact capsStable_of_capFree _ (by decide)
  · exact capsStable_of_capFree _ (by decide)
  · -- the dropped prefix group `[+-]? 0 [xX]?` consumes at least the `0`
    exact minLen_seq _ (0 + (1 + 0))
      (seqMinLen_cons _ _ _ _ (minLen_zero _) (seqMinLen_cons _ _ _ _ (minLen_cls _ _) (seqMinLen_zero _)))

theorem ints_c_shape : (intsEntry "c").2 = [.grp 1, .grp 2, .grp 3] ∧ shapeC (rxTbl (intsEntry "c").1) := by
  refine ⟨by decide, _, _, _, _, by rfl, ?_, ?_, ?_, ?_, minLen_rep_pos _ _ _ _ 1 (by decide) (minLen_cls _ _)⟩
  all_goals exact capsStable_of_capFree _ (by decide)

/-- special b / c delete the whole match (`extern 'C'`, `extern 'C++'`), which is never empty -/
theorem special_bc_shape (arg : String) (harg : arg = "b" ∨ arg = "c") :
    (specialEntry arg).2 = [] ∧ MinLen (rxTbl (specialEntry arg).1) 1 := by
  rcases harg with rfl | rfl
  · exact ⟨by decide, minLen_seq_cls _ _ _⟩
  · exact ⟨by decide, minLen_seq_cls _ _ _⟩

theorem ints_abc_shorten (arg : String) (harg : arg = "a" ∨ arg = "b" ∨ arg = "c") (s : Text) :
    ∀ m ∈ modsOf (intsEntry arg).1 (intsEntry arg).2 s, (s.take m.1.1 ++ m.2 ++ s.drop m.1.2).length < s.length := by
  apply mods_shorten
  intro a e c hm he
  rcases harg with rfl | rfl | rfl
  · rw [ints_a_shape.1]; exact shapeA_shorter _ ints_a_shape.2 s a e c hm he
  · rw [ints_b_shape.1]; exact shapeB_shorter _ ints_b_shape.2 s a e c hm he
  · rw [ints_c_shape.1]; exact shapeC_shorter _ ints_c_shape.2 s a e c hm he

theorem special_bc_shorten (arg : String) (harg : arg = "b" ∨ arg = "c") (s : Text) :
    ∀ m ∈ modsOf (specialEntry arg).1 (specialEntry arg).2 s, (s.take m.1.1 ++ m.2 ++ s.drop m.1.2).length < s.length := by
  apply mods_shorten
  intro a e c hm _
  obtain ⟨h1, h2⟩ := special_bc_shape arg harg
  rw [h1]
  exact Nat.sub_pos_of_lt (h2 (toArr s) a [] (e, c) hm)

theorem isDigit_toNat (c : Char) (h : c.isDigit = true) : 48 ≤ c.toNat ∧ c.toNat ≤ 57 := by
  unfold Char.isDigit at h
  simp only [Bool.and_eq_true, decide_eq_true_eq] at h
  exact ⟨UInt32.le_iff_toNat_le.mp h.1, UInt32.le_iff_toNat_le.mp h.2⟩

theorem digitsOf_isDigit (n : Nat) : ∀ ch ∈ digitsOf n, ch.isDigit = true := by
  intro ch h
  unfold digitsOf at h
  rw [Nat.toList_repr] at h
  exact Nat.isDigit_of_mem_toDigits (by decide) (by decide) h

/-- `G₁ G₂ G₃` with `G₂ = 0 [xX] hex⁺`, replacement `G₁ dec(G₂) G₃` (ints d) -/
def shapeD (r : Rx) : Prop := ∃ A H C, r = .seq [.grp 1 A, .grp 2 (.seq (.cls false [.lit 48] :: .cls false [.lit 88, .lit 120] :: H)), .grp 3 C] ∧
  CapsStable A ∧ SeqStable H ∧ CapsStable C

/-- ints d: the decimal rendering of `0x…` differs from it: were the candidate the input, the digits would be the text of
    group 2, whose second character is `x` / `X` -/
theorem shapeD_differs (r : Rx) (h : shapeD r) (s : Text) (a e : Nat) (c : Caps)
    (hm : (e, c) ∈ ends (toArr s) r a []) (he : e ≤ s.length) :
    s.take a ++ [RPiece.grp 1, .hexToDec 2, .grp 3].flatMap (evalRPiece s c) ++ s.drop e ≠ s := by
  obtain ⟨A, H, C, rfl, hA, hH, hC⟩ := h
  have hG := capsStable_seq _ (seqStable_cons _ _ (capsStable_cls false [.lit 48])
    (seqStable_cons _ _ (capsStable_cls false [.lit 88, .lit 120]) hH))
  rw [ends] at hm
  obtain ⟨qs, hb, rfl, rfl⟩ := endsSeq_flat _ [.g 1 A, .g 2 _, .g 3 C] a [] (e, c) (flat_cons hA (flat_cons hG (flat_cons hC flat_nil))) hm
  obtain ⟨q1, qs, rfl, o1, -, -, hb⟩ := hb.cons
  obtain ⟨q2, qs, rfl, o2, -, ⟨cc, hin⟩, hb⟩ := hb.cons
  obtain ⟨q3, qs, rfl, o3, -, -, hb⟩ := hb.cons
  cases (show qs = [] from hb)
  -- `0` stands at `q1`, `x` or `X` at `q1 + 1`
  obtain ⟨-, -, hin⟩ := ends_seq_cls hin
  obtain ⟨hp, hx, hin⟩ := ends_seq_cls hin
  have o4 := (ends_bounds _ _ _ _ _ hin).1
  change q3 ≤ s.length at he
  intro heq
  -- the candidate is the input: cancel the texts of groups 1 and 3 on both sides
  have h1 : (s.take q1).drop a ++ (digitsOf (hexVal ((s.take q2).drop q1)) ++ ((s.take q3).drop q2 ++ [])) = (s.take q3).drop a :=
    splice_eq (Nat.le_trans o1 (Nat.le_trans o2 o3)) heq
  rw [List.append_nil, slice_split s a q1 q3 o1 (Nat.le_trans o2 o3) he, slice_split s q1 q2 q3 o2 o3 he] at h1
  have h2 := List.append_cancel_right (List.append_cancel_left h1)
  -- so the character at `q1 + 1` is a decimal digit
  have hs : q1 + 1 < s.length := toArr_size s ▸ hp
  have hmem : s[q1 + 1] ∈ (s.take q2).drop q1 :=
    List.mem_of_getElem? ((slice_getElem? s q1 q2 1 (by omega)).trans (List.getElem?_eq_getElem hs))
  rw [← h2] at hmem
  have := isDigit_toNat _ (digitsOf_isDigit _ _ hmem)
  rw [toArr_get s _ hp] at hx
  simp [CItem.has] at hx
  omega

theorem ints_d_shape : (intsEntry "d").2 = [.grp 1, .hexToDec 2, .grp 3] ∧ shapeD (rxTbl (intsEntry "d").1) := by
  refine ⟨by decide, _, _, _, by rfl, capsStable_of_capFree _ (by decide), (stable_of_capFreeL _ (by decide)).1,
    capsStable_of_capFree _ (by decide)⟩

theorem ints_d_candidates_differ (s : Text) :
    ∀ m ∈ modsOf (intsEntry "d").1 (intsEntry "d").2 s, s.take m.1.1 ++ m.2 ++ s.drop m.1.2 ≠ s := by
  intro m hm
  obtain ⟨a, e, c, rfl, h1, -, h3⟩ := mem_modsOf hm
  rw [ints_d_shape.1]
  exact shapeD_differs _ ints_d_shape.2 s a e c h1 h3

/-- special a: `transparent_crc(x, …)` becomes `printf('%d\n', (int)x)`: were the candidate the input, the match would
    begin with `p`, but it begins with `t` -/
theorem special_a_candidates_differ (s : Text) :
    ∀ m ∈ modsOf (specialEntry "a").1 (specialEntry "a").2 s, s.take m.1.1 ++ m.2 ++ s.drop m.1.2 ≠ s := by
  intro m hm
  obtain ⟨a, e, c, rfl, h1, h2, -⟩ := mem_modsOf hm
  obtain ⟨rs, hrs⟩ : ∃ rs, rxTbl (specialEntry "a").1 = .seq (.cls false [.lit 116] :: rs) := ⟨_, by rfl⟩
  have hr : ((specialEntry "a").2.flatMap (evalRPiece s c)).head? = some 'p' := by
    show ("printf('%d\\n', (int)".toList ++ _).head? = _
    simp
  rw [hrs] at h1
  obtain ⟨hp, hch, h1⟩ := ends_seq_cls h1
  have o := (ends_bounds _ _ _ _ _ h1).1
  have ha : a < s.length := toArr_size s ▸ hp
  intro heq
  dsimp only at heq
  rw [splice_eq h2 heq, List.head?_eq_getElem?, slice_getElem? s a e 0 o, Nat.add_zero, List.getElem?_eq_getElem ha] at hr
  rw [toArr_get s a hp, Option.some.inj hr] at hch
  exact absurd hch (by decide)

end Cvise.P
