import Cvise.Model.WorldFS
/-!
C04 frame and originals over the working-directory effect of a reduction (`W.afterReduce`): whatever the event log — hence
for the log of every run of the driver model, under every pass behaviour, test, schedule and limit setting — only the test
cases, their `.orig` backups and entries under report-directory names can differ from the start.
-/
namespace Cvise.W
open Cvise

theorem lookupFS_writeFS (fs : FS) (p q : String) (b : Bytes) :
    lookupFS (writeFS fs p b) q = if q = p then some b else lookupFS fs q := by
  induction fs with
  | nil => grind [writeFS, lookupFS]
  | cons e rest ih => grind [writeFS, lookupFS]

theorem lookupFS_append (fs : FS) (p q : String) (b : Bytes) :
    lookupFS (fs ++ [(p, b)]) q = (lookupFS fs q).or (if q = p then some b else none) := by
  simp only [lookupFS, List.lookup_append, List.lookup_cons, List.lookup_nil]
  split <;> simp_all

theorem lookup_writeFS_eq (fs : FS) (p : String) (b : Bytes) : lookupFS (writeFS fs p b) p = some b := by
  simp [lookupFS_writeFS]

theorem lookup_backup_other (p : String) : ∀ (names : List String) (fs : FS), (∀ f ∈ names, f ++ ".orig" ≠ p) →
    lookupFS (backup fs names) p = lookupFS fs p
  | [], _, _ => rfl
  | f :: rest, fs, h => by
    have ih := fun fs => lookup_backup_other p rest fs (fun g hg => h g (.tail _ hg))
    simp only [backup]
    split
    · simp [ih, lookupFS_append, Ne.symm (h f (.head _))]
    · exact ih fs

/-- what a path must avoid to be outside the reach of a reduction -/
def Untouchable (names : List String) (p : String) : Prop :=
  p ∉ names ∧ (∀ f ∈ names, f ++ ".orig" ≠ p) ∧ isReportPath p = false

theorem lookup_writeDisk_other (p : String) : ∀ (names : List String) (disk : List Bytes) (fs : FS), p ∉ names →
    lookupFS (writeDisk fs names disk) p = lookupFS fs p
  | [], _, _, _ => by simp [writeDisk]
  | _ :: _, [], _, _ => rfl
  | q :: qs, c :: cs, fs, h => by
    rw [writeDisk, lookup_writeDisk_other p qs cs _ (fun hm => h (.tail _ hm)), lookupFS_writeFS,
      if_neg (fun (e : p = q) => h (e ▸ .head _))]

section frame
variable {names : List String} {bugName extraName : Nat → String}
  (hb : ∀ n, isReportPath (bugName n) = true) (he : ∀ n, isReportPath (extraName n) = true)
  {p : String} (hn : p ∉ names) (hr : isReportPath p = false)
include hb he hn hr

/-- an event writes only test cases and report directories -/
theorem applyEv_lookup (st : FS × Nat × Nat) (ev : D.Ev Bytes) :
    lookupFS (applyEv names bugName extraName st ev).1 p = lookupFS st.1 p := by
  have hq : ∀ {k q}, names[k]? = some q → p ≠ q := fun hq e => hn (e ▸ List.mem_of_getElem? hq)
  have hb' : ∀ n, p ≠ bugName n := fun n e => by simp [e, hb] at hr
  have he' : ∀ n, p ≠ extraName n := fun n e => by simp [e, he] at hr
  cases ev with
  | commit _ k c | replay _ k c =>
    simp only [applyEv]
    split
    · next hk => rw [lookupFS_writeFS, if_neg (hq hk)]
    · rfl
  | bugdir | extradir => simp [applyEv, lookupFS_writeFS, hb', he']
  | _ => rfl

theorem afterReduce_lookup (tidy : Bool) (fs : FS) (log : List (D.Ev Bytes)) :
    lookupFS (afterReduce names bugName extraName tidy fs log) p = lookupFS (if tidy then fs else backup fs names) p := by
  have key : ∀ (log : List (D.Ev Bytes)) st,
      lookupFS (log.foldl (applyEv names bugName extraName) st).1 p = lookupFS st.1 p := by
    intro log
    induction log with
    | nil => intro _; rfl
    | cons ev rest ih => intro st; rw [List.foldl_cons, ih, applyEv_lookup hb he hn hr]
  exact key log _

end frame

theorem reduce_frame (names : List String) (bugName extraName : Nat → String)
    (hb : ∀ n, isReportPath (bugName n) = true) (he : ∀ n, isReportPath (extraName n) = true)
    (tidy : Bool) (fs : FS) (log : List (D.Ev Bytes)) (p : String) (hp : Untouchable names p) :
    lookupFS (afterReduce names bugName extraName tidy fs log) p = lookupFS fs p := by
  rw [afterReduce_lookup hb he hp.1 hp.2.2]
  cases tidy
  · exact lookup_backup_other p names fs hp.2.1
  · rfl

theorem reduce_keeps_backups (names : List String) (bugName extraName : Nat → String)
    (hb : ∀ n, isReportPath (bugName n) = true) (he : ∀ n, isReportPath (extraName n) = true)
    (fs : FS) (log : List (D.Ev Bytes)) (f : String)
    (hn : f ++ ".orig" ∉ names) (hr : isReportPath (f ++ ".orig") = false) :
    lookupFS (afterReduce names bugName extraName false fs log) (f ++ ".orig") = lookupFS (backup fs names) (f ++ ".orig") :=
  afterReduce_lookup hb he hn hr false fs log

theorem reduceD_frame (names : List String) (bugName extraName : Nat → String)
    (hb : ∀ n, isReportPath (bugName n) = true) (he : ∀ n, isReportPath (extraName n) = true)
    (tidy : Bool) (fs : FS) (log : List (D.Ev Bytes)) (disk : List Bytes) (p : String) (hp : Untouchable names p) :
    lookupFS (afterReduceD names bugName extraName tidy fs log disk) p = lookupFS fs p := by
  rw [afterReduceD, lookup_writeDisk_other p names disk _ hp.1]
  exact reduce_frame names bugName extraName hb he tidy fs log p hp

theorem reduceD_keeps_backups (names : List String) (bugName extraName : Nat → String)
    (hb : ∀ n, isReportPath (bugName n) = true) (he : ∀ n, isReportPath (extraName n) = true)
    (fs : FS) (log : List (D.Ev Bytes)) (disk : List Bytes) (f : String)
    (hn : f ++ ".orig" ∉ names) (hr : isReportPath (f ++ ".orig") = false) :
    lookupFS (afterReduceD names bugName extraName false fs log disk) (f ++ ".orig") = lookupFS (backup fs names) (f ++ ".orig") := by
  rw [afterReduceD, lookup_writeDisk_other _ names disk _ hn]
  exact reduce_keeps_backups names bugName extraName hb he fs log f hn hr

end Cvise.W
