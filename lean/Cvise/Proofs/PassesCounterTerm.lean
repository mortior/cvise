import Cvise.Proofs.PassesC07
import Cvise.Proofs.PassesTerm
import Cvise.Proofs.PassesLines
import Cvise.Proofs.PassesComments
/-!
C03 for the counter passes `blank`, `includes` and `comments` under **every** accept/reject history: each bound rests on
what a live answer of `transform` says about the cursor (`drive_bound_live`).
-/
namespace Cvise.P
open Cvise Cvise.M Cvise.D

theorem blankLoop_live (s : Text) : ∀ (fuel st : Nat) (pr : PR) (out : Text) (st' : Nat),
    blankLoop s fuel st = (pr, out, st') → live pr → st < st' ∧ st' ≤ Gen.blankPatterns.length := by
  intro fuel
  induction fuel with
  | zero => intro st pr out st' h hl; cases h; exact absurd (Or.inl rfl) hl
  | succ f ih =>
    intro st pr out st' h hl
    simp only [blankLoop] at h
    split at h
    · cases h; exact absurd (Or.inl rfl) hl
    · rename_i id hid
      have := (List.getElem?_eq_some_iff.mp hid).1
      split at h
      · cases h; omega
      · have := ih (st + 1) pr out st' h hl
        omega

theorem blank_bound (hist : List Bool) (s : Text) :
    (runHistory blank hist s (some 0) []).1.length ≤ Gen.blankPatterns.length + 2 := by
  have stop : ∀ s st, st ≥ Gen.blankPatterns.length → blank.transform s st = (.stop, s, st) := fun _ _ h => if_pos h
  have key := drive_bound_live blank (fun _ _ => True) (fun _ st => Gen.blankPatterns.length + 1 - st)
    (fun _ _ _ _ _ _ _ _ _ _ => trivial) (fun _ _ _ _ _ _ _ _ => trivial)
    (by
      intro s st pr s2 st2 st' _ htr hl hadv
      cases hadv
      by_cases hst : st ≥ Gen.blankPatterns.length
      · rw [stop s st hst] at htr
        cases htr
        exact absurd (Or.inl rfl) hl
      · show _ + 1 - (st + 1) < _ + 1 - st
        omega)
    (by
      intro s st s2 st2 st' _ htr haos
      cases haos
      by_cases hst : st ≥ Gen.blankPatterns.length
      · rw [stop s st hst] at htr
        cases htr
      · have : blank.transform s st = blankLoop s (Gen.blankPatterns.length + 1) st := if_neg hst
        rw [this] at htr
        have := blankLoop_live s _ st .ok s2 st2 htr (by simp [live])
        show _ + 1 - st2 < _ + 1 - st
        omega)
    hist s 0 [] trivial
  simpa using key

theorem includes_transform_live (s : Text) (st : Nat) (pr : PR) (s2 : Text) (st2 : Nat)
    (h : includes.transform s st = (pr, s2, st2)) (hl : live pr) :
    pr = .ok ∧ ∃ ls, removeNth Gen.includesRx (splitLines s) st = some ls := by
  simp only [includes] at h
  split at h
  · cases h; exact absurd (Or.inl rfl) hl
  · split at h
    · cases h; exact ⟨rfl, _, by assumption⟩
    · cases h; exact absurd (Or.inl rfl) hl

/-- an accepted candidate is strictly shorter; a live candidate exists only for `st ≤` number of lines `≤ |s|` -/
theorem includes_bound (hist : List Bool) (s : Text) :
    (runHistory includes hist s (some 1) []).1.length ≤ s.length * (s.length + 2) + s.length + 2 := by
  have key : _ ≤ 0 + (s.length * (s.length + 2) + (s.length + 1 - 1)) + 1 :=
    drive_bound_lex includes (fun _ _ => True) (fun s st => s.length + 1 - st) (· + 1)
    (fun _ _ h => by omega) (fun _ _ _ => by omega)
    (fun _ _ _ _ _ _ _ _ _ _ => trivial) (fun _ _ _ _ _ _ _ _ => trivial)
    (by
      intro s st pr s2 st2 st' _ htr hl hadv
      cases hadv
      obtain ⟨_, ls, hls⟩ := includes_transform_live s st pr s2 st2 htr hl
      have h1 := (removeNth_sublist _ _ _ _ hls).2.2
      have h2 := lines_le_length s
      show _ + 1 - (st + 1) < _ + 1 - st
      omega)
    (fun s st s2 st2 _ htr => by
      have hc := includes_candidate s st s2 st2 htr
      exact sublist_ne_length_lt hc.1 hc.2)
    hist s 1 [] trivial
  omega

theorem comments_live (s : Text) (st : Nat) (pr : PR) (s2 : Text) (st2 : Nat)
    (htr : comments.transform s st = (pr, s2, st2)) (hl : live pr) :
    pr = .ok ∧ st ≤ st2 ∧ st2 < Gen.commentsSubs.length ∧ s2.length < s.length := by
  rcases commentsLoop_spec s _ st pr s2 st2 htr with h | ⟨rfl, h2, id, repl, hget, _, _⟩
  · exact absurd (Or.inl h) hl
  · have hc := comments_candidate s _ st s2 st2 htr
    exact ⟨rfl, h2, (List.getElem?_eq_some_iff.mp hget).1, sublist_ne_length_lt hc.1 hc.2⟩

/-- an accepted candidate deletes comment text, so it is strictly shorter; on the same text the substitution index only
    grows -/
theorem comments_bound (hist : List Bool) (s : Text) :
    (runHistory comments hist s (some 0) []).1.length ≤ s.length * (Gen.commentsSubs.length + 2) + Gen.commentsSubs.length + 2 := by
  have key : _ ≤ 0 + (s.length * (Gen.commentsSubs.length + 2) + (Gen.commentsSubs.length + 1 - 0)) + 1 :=
    drive_bound_lex comments (fun _ _ => True) commentsMu (fun _ => Gen.commentsSubs.length + 1)
    (fun _ _ _ => Nat.le_refl _) (fun _ _ _ => Nat.sub_le _ _)
    (fun _ _ _ _ _ _ _ _ _ _ => trivial) (fun _ _ _ _ _ _ _ _ => trivial)
    (by
      intro s st pr s2 st2 st' _ htr hl hadv
      cases hadv
      have := comments_live s st pr s2 st2 htr hl
      show _ + 1 - (st + 1) < _ + 1 - st
      omega)
    (fun s st s2 st2 _ htr => (comments_live s st .ok s2 st2 htr (by simp [live])).2.2.2)
    hist s 0 [] trivial
  omega

/-- all-reject histories: an accepted candidate keeps the state (the mutable-state quirk of `comments`), a rejected one
    moves the substitution index on, so at most `|subs| + 1 - st` more candidates -/
theorem comments_reject_bound (s : Text) (hist : List Bool) (hr : ∀ a ∈ hist, a = false) (st : Nat) (acc : List (PR × Text)) :
    (runHistory comments hist s (some st) acc).1.length ≤ acc.length + (Gen.commentsSubs.length + 1 - st) + 1 :=
  drive_bound_gen comments False (fun _ _ => True) commentsMu
    (fun _ _ _ _ _ _ _ _ _ _ => trivial) (fun h => h.elim)
    (by
      intro s st pr s2 st2 st' _ htr hl hadv
      cases hadv
      have := comments_live s st pr s2 st2 htr hl
      show _ + 1 - (st + 1) < _ + 1 - st
      omega)
    (fun h => h.elim) hist (fun h => by cases hr _ h) s st acc trivial

end Cvise.P
