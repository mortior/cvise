import Cvise.Model.BinaryVariants
import Cvise.Proofs.BinaryMonotone
import Cvise.Proofs.BinaryNoSingle
import Cvise.Proofs.BinaryTerm
/-! C06 / C03 for the gcda pass (restart after every accepted removal) and the ifs pass (cursor with a value): the moves of the
    generic run under other glue (gcda: `reject` and a fresh start on the candidate) -/
namespace Cvise
variable {α : Type}

theorem gcdaStep_eq (test : List α → Bool) (x : St α) :
    gcdaStep test x = if test x.cand then (if x.cand.length = 0 then .inr x.cand else .inl (St.fresh x.cand)) else x.reject := by
  unfold gcdaStep
  by_cases h : x.cand.length = 0
  · rw [h, BS.create_zero, if_pos rfl]
    rfl
  · rw [BS.create_of_ne h, if_neg h]
    rfl

theorem gcdaRun_eq_iter (test : List α → Bool) : gcdaRun test = iter (gcdaStep test) :=
  iter_unique (fun _ => rfl) fun n x => by
    rw [gcdaRun]
    cases gcdaStep test x <;> rfl

theorem gcdaStart_eq (test : List α → Bool) (fuel : Nat) (l : List α) :
    gcdaStart test fuel l = startWith (gcdaStep test) id fuel l := by
  unfold gcdaStart startWith
  by_cases h : l.length = 0
  · rw [h, BS.create_zero, if_pos rfl]
  · rw [BS.create_of_ne h, if_neg h, gcdaRun_eq_iter]
    rfl

def St.GInv (x : St α) : Prop := x.Inv ∧ x.st.chunk ≤ x.items.length

theorem fresh_GInv (l : List α) (h : l.length ≠ 0) : (⟨l, ⟨0, l.length, l.length⟩⟩ : St α).GInv :=
  ⟨St.fresh_inv h, Nat.le_refl _⟩

theorem startFuel_mono {a b : Nat} (h : a ≤ b) : startFuel a ≤ startFuel b := by
  have := Nat.mul_le_mul h (show 2 * a + 2 ≤ 2 * b + 2 by omega)
  unfold startFuel
  omega

/-- the measure of the gcda run: restarts are paid for by the strictly shorter list -/
def gmu (x : St α) : Nat := x.items.length * startFuel x.items.length + mu x

theorem gcdaStep_dec (test : List α → Bool) {x : St α} (h : x.GInv) :
    Sum.elim (fun y => y.GInv ∧ gmu y < gmu x) (fun _ => True) (gcdaStep test x) := by
  rw [gcdaStep_eq]
  split
  · split
    · trivial
    · -- a restart: `mu` of the fresh cursor is known, and one `startFuel` of the shorter list pays for it
      refine ⟨fresh_GInv _ ‹_›, ?_⟩
      have hl : x.cand.length + 1 ≤ x.items.length := (cand_length x h.1).1
      have := Nat.mul_le_mul hl (startFuel_mono (Nat.le_of_lt hl))
      rw [Nat.add_mul, Nat.one_mul] at this
      have := mu_fresh x.cand
      simp only [gmu]
      omega
  · refine Sum.elim_imp (x.reject_dec h.1) (fun y hy => ⟨⟨hy.1, ?_⟩, ?_⟩) (fun _ => id)
    · rw [hy.2.2.1]
      exact Nat.le_trans hy.2.2.2 h.2
    · simp only [gmu, hy.2.2.1]
      omega

theorem gcdaStart_completes (test : List α → Bool) (l : List α) :
    ∃ r, gcdaStart test (gcdaFuel l.length) l = some r := by
  rw [gcdaStart_eq]
  refine startWith_total gmu (fun _ => gcdaStep_dec test) fun h => ⟨fresh_GInv l h, ?_⟩
  have := mu_fresh l
  simp only [id, gmu, gcdaFuel, Nat.add_mul, Nat.one_mul]
  omega

theorem gcdaStep_K {l : List α} (test : List α → Bool) {x : St α} (hK : K l (test · = false) x) :
    Sum.elim (K l (test · = false)) (DoneK l (test · = false)) (gcdaStep test x) := by
  rw [gcdaStep_eq]
  split
  · split
    · exact hK.cand_done
    · exact hK.cand (St.fresh_inv ‹_›) rfl
  · exact hK.reject fun _ _ => Bool.eq_false_iff.mpr ‹_›

theorem gcda_no_accept_no_single (test : List α → Bool) (l : List α) (fuel : Nat) (r : List α)
    (h : gcdaStart test fuel l = some r) (hlen : r.length = l.length) :
    ∀ j, j < l.length → test (l.eraseIdx j) = false :=
  have hd : DoneK l (test · = false) r :=
    startWith_elim (fun _ => gcdaStep_K test) DoneK.nil K.fresh (gcdaStart_eq test fuel l ▸ h)
  hd.all (hd.sub.eq_of_length hlen)

section Monotone
variable [DecidableEq α]

theorem gcdaStep_J {items0 R : List α} {x : St α} (hJ : J items0 R x) :
    Sum.elim (J items0 R) (Done items0 R) (gcdaStep (reqTest R) x) := by
  rw [gcdaStep_eq]
  split
  · have hsub := (cand_sublist x hJ.inv).trans hJ.sub
    split
    · exact Done.nil hsub (reqTest_true ‹_›) ‹_›
    · exact J.fresh hsub (reqTest_true ‹_›) ‹_›
  · exact hJ.reject (Bool.eq_false_iff.mpr ‹_›)

theorem gcda_monotone_exact (items0 R : List α) (hn : items0.Nodup) (hR : ∀ r ∈ R, r ∈ items0)
    (fuel : Nat) (r : List α) (h : gcdaStart (reqTest R) fuel items0 = some r) :
    r = items0.filter (fun a => decide (a ∈ R)) :=
  (startWith_elim (fun _ => gcdaStep_J) (Done.nil (.refl _) hR) (J.fresh (.refl _) hR) (gcdaStart_eq _ fuel items0 ▸ h)).eq_filter hn

end Monotone

theorem ifsStep_eq (test : List α → Bool → Bool) (x : IfSt α) :
    ifsStep test x = if test x.base.cand x.value then x.base.accept.map (⟨·, x.value⟩) id
      else if x.value = false then .inl ⟨x.base, true⟩ else x.base.reject.map (⟨·, false⟩) id := by
  unfold ifsStep St.accept St.reject
  split
  · cases x.base.st.advanceOnSuccess x.base.cand.length <;> rfl
  · split
    · rfl
    · cases x.base.st.advance <;> rfl

theorem ifsRun_eq_iter (test : List α → Bool → Bool) : ifsRun test = iter (ifsStep test) :=
  iter_unique (fun _ => rfl) fun n x => by
    rw [ifsRun]
    cases ifsStep test x <;> rfl

theorem ifsStart_eq (test : List α → Bool → Bool) (fuel : Nat) (l : List α) :
    ifsStart test fuel l = startWith (ifsStep test) (⟨·, false⟩) fuel l := by
  unfold ifsStart startWith
  by_cases h : l.length = 0
  · rw [h, BS.create_zero, if_pos rfl]
  · rw [BS.create_of_ne h, if_neg h, ifsRun_eq_iter]

def imu (x : IfSt α) : Nat := 2 * mu x.base + (if x.value then 0 else 1)

theorem ifsStep_dec (test : List α → Bool → Bool) {x : IfSt α} (h : x.base.Inv) :
    Sum.elim (fun y => y.base.Inv ∧ imu y < imu x) (fun _ => True) (ifsStep test x) := by
  obtain ⟨b, v⟩ := x
  rw [ifsStep_eq]
  split
  · rw [Sum.elim_map]
    exact Sum.elim_imp (b.accept_dec h)
      (fun y hy => ⟨hy.1, Nat.add_lt_add_right (Nat.mul_lt_mul_of_pos_left hy.2 (by decide)) _⟩) (fun _ => id)
  · cases v with
    | false => exact ⟨h, Nat.lt_succ_self _⟩
    | true =>
      rw [if_neg Bool.noConfusion, Sum.elim_map]
      refine Sum.elim_imp (b.reject_dec h) (fun y hy => ⟨hy.1, show 2 * mu y + 1 < 2 * mu b + 0 from ?_⟩) (fun _ => id)
      omega

theorem ifsStart_completes (test : List α → Bool → Bool) (l : List α) :
    ∃ r, ifsStart test (ifsFuel l.length) l = some r := by
  rw [ifsStart_eq]
  refine startWith_total imu (fun _ => ifsStep_dec test) fun h => ⟨St.fresh_inv h, ?_⟩
  have := mu_fresh l
  show 2 * mu (St.fresh l) + 1 < ifsFuel l.length
  unfold ifsFuel
  omega

/-- nothing accepted ⇒ every single instance was tried with both values and rejected: `K` for "refused with either value",
    and, once the value is 1, the refusal with value 0 of the single under the cursor -/
structure KI (l : List α) (test : List α → Bool → Bool) (x : IfSt α) : Prop where
  base : K l (fun c => ∀ v, test c v = false) x.base
  low : x.value = true → x.base.items = l → x.base.st.chunk = 1 → test x.base.cand false = false

theorem ifsStep_KI {l : List α} (test : List α → Bool → Bool) {x : IfSt α} (hK : KI l test x) :
    Sum.elim (KI l test) (DoneK l (fun c => ∀ v, test c v = false)) (ifsStep test x) := by
  obtain ⟨b, v⟩ := x
  rw [ifsStep_eq]
  split
  · -- accepted: what is left is no longer `l`
    rw [Sum.elim_map]
    exact b.accept_elim hK.base.inv
      (fun _ hy hi _ => ⟨hK.base.cand hy hi, fun _ h => absurd (hi ▸ h) hK.base.cand_ne⟩) (fun _ => hK.base.cand_done)
  · have ht : test b.cand v = false := Bool.eq_false_iff.mpr ‹_›
    cases v with
    | false => exact ⟨hK.base, fun _ _ _ => ht⟩
    | true =>
      rw [if_neg Bool.noConfusion, Sum.elim_map]
      refine Sum.elim_imp (hK.base.reject fun hl hc v => ?_) (fun y hy => ⟨hy, fun h => Bool.noConfusion h⟩) (fun _ => id)
      cases v with
      | false => exact hK.low rfl hl hc
      | true => exact ht

theorem ifs_no_accept_no_single (test : List α → Bool → Bool) (l : List α) (fuel : Nat) (r : List α)
    (h : ifsStart test fuel l = some r) (hlen : r.length = l.length) :
    ∀ j, j < l.length → ∀ v, test (l.eraseIdx j) v = false :=
  have hd : DoneK l (fun c => ∀ v, test c v = false) r :=
    startWith_elim (fun _ => ifsStep_KI test) DoneK.nil (fun h => ⟨K.fresh h, fun h => Bool.noConfusion h⟩)
      (ifsStart_eq test fuel l ▸ h)
  hd.all (hd.sub.eq_of_length hlen)

/-- with a test that does not look at the value, the ifs run ends like the generic run (it only asks twice) -/
theorem ifs_sim (t : List α → Bool) : ∀ (f : Nat) (x : St α) (v : Bool) (r : List α),
    run t f x = some r → ifsRun (fun l _ => t l) (2 * f) ⟨x, v⟩ = some r := by
  rw [run_eq_iter, ifsRun_eq_iter]
  intro f
  induction f with
  | zero => intro x v r h; cases h
  | succ f ih =>
    intro x v r h
    -- a move of the generic run is the same move of the ifs run; `w` is the value afterwards
    have move : ∀ (m : Sum (St α) (List α)) (w : Bool) (k : Nat), 2 * f ≤ k → Sum.elim (iter (step t) f) some m = some r →
        Sum.elim (iter (ifsStep fun l _ => t l) k) some (m.map (⟨·, w⟩) id) = some r := by
      intro m w k hk hm
      cases m with
      | inl y => exact iter_mono (ih y w r hm) hk
      | inr q => exact hm
    rw [iter_succ, step_eq] at h
    rw [show 2 * (f + 1) = 2 * f + 1 + 1 by omega, iter_succ, ifsStep_eq]
    by_cases ht : t x.cand = true
    · rw [if_pos ht] at h ⊢
      exact move _ _ _ (Nat.le_succ _) h
    · rw [if_neg ht] at h ⊢
      cases v with
      | true => exact move _ _ _ (Nat.le_succ _) h
      | false =>
        -- the first refusal only flips the value
        rw [if_pos rfl, Sum.elim_inl, iter_succ, ifsStep_eq, if_neg ht]
        exact move _ _ _ (Nat.le_refl _) h

section Monotone
variable [DecidableEq α]

/-- the value does not matter to `J`: a flip keeps the base, the other two steps are the moves -/
theorem ifsStep_J {items0 R : List α} {x : IfSt α} (hJ : J items0 R x.base) :
    Sum.elim (fun y => J items0 R y.base) (Done items0 R) (ifsStep (fun l _ => reqTest R l) x) := by
  rw [ifsStep_eq]
  split
  · rw [Sum.elim_map]
    exact hJ.accept ‹_›
  · split
    · exact hJ
    · rw [Sum.elim_map]
      exact hJ.reject (Bool.eq_false_iff.mpr ‹_›)

theorem ifs_monotone_exact (items0 R : List α) (hn : items0.Nodup) (hR : ∀ r ∈ R, r ∈ items0)
    (fuel : Nat) (r : List α) (h : ifsStart (fun l _ => reqTest R l) fuel items0 = some r) :
    r = items0.filter (fun a => decide (a ∈ R)) :=
  (startWith_elim (fun _ => ifsStep_J) (Done.nil (.refl _) hR) (J.fresh (.refl _) hR) (ifsStart_eq _ fuel items0 ▸ h)).eq_filter hn

end Monotone

end Cvise
