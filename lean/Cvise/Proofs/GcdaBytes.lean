import Cvise.Model.Binary
/-!
`GCDABinaryPass.transform` works on bytes: `data[0 : functions[index]] + data[functions[end] :]` (the second part only if
`end < len(functions)`).  The run model (`gcdaRun`) works on a list of items.  Here the two are tied: with the function
offsets in ascending order inside the file, the byte-level candidate is the header followed by the records that `cut`
leaves — so a candidate of the byte-level pass *is* the item-level candidate.
-/
namespace Cvise

/-- the byte-level candidate of `GCDABinaryPass.transform` -/
def gcdaBytes (data : List Nat) (offs : List Nat) (i e : Nat) : List Nat :=
  data.take (offs.getD i 0) ++ (if e < offs.length then data.drop (offs.getD e 0) else [])

/-- the records of the file: record `k` runs from offset `k` to offset `k+1`, the last one to the end of the file -/
def gcdaRecs (data : List Nat) : List Nat → List (List Nat)
  | [] => []
  | [o] => [data.drop o]
  | o :: o' :: rest => (data.drop o).take (o' - o) :: gcdaRecs data (o' :: rest)

def Ascending : List Nat → Prop
  | [] => True
  | [_] => True
  | a :: b :: rest => a ≤ b ∧ Ascending (b :: rest)

theorem gcdaRecs_length (data : List Nat) : ∀ offs, (gcdaRecs data offs).length = offs.length
  | [] => rfl
  | [_] => rfl
  | _ :: o' :: rest => by simp [gcdaRecs, gcdaRecs_length data (o' :: rest)]

theorem gcdaRecs_flatten (data : List Nat) : ∀ (offs : List Nat) (o : Nat), Ascending (o :: offs) →
    (gcdaRecs data (o :: offs)).flatten = data.drop o
  | [], o, _ => by simp [gcdaRecs]
  | o' :: rest, o, h => by
    obtain ⟨k, rfl⟩ := Nat.exists_eq_add_of_le h.1
    simp only [gcdaRecs, List.flatten_cons]
    rw [gcdaRecs_flatten data rest _ h.2, Nat.add_sub_cancel_left, ← List.drop_drop, List.take_append_drop]

theorem ascending_tail {a : Nat} {l : List Nat} (h : Ascending (a :: l)) : Ascending l := by
  cases l with
  | nil => trivial
  | cons b rest => exact h.2

theorem ascending_head_le {a : Nat} {l : List Nat} (h : Ascending (a :: l)) : ∀ (k : Nat) (hk : k < l.length), a ≤ l[k] := by
  induction l generalizing a with
  | nil => intro k hk; simp at hk
  | cons b rest ih =>
    intro k hk
    cases k with
    | zero => exact h.1
    | succ k => exact Nat.le_trans h.1 (ih h.2 k (by simpa using hk))

theorem gcdaRecs_drop (data : List Nat) : ∀ (offs : List Nat) (e : Nat) (he : e < offs.length), Ascending offs →
    ((gcdaRecs data offs).drop e).flatten = data.drop offs[e]
  | o :: rest, 0, _, h => by simpa using gcdaRecs_flatten data rest o h
  | o :: o' :: rest, e + 1, he, h => by
    simp only [gcdaRecs, List.drop_succ_cons, List.getElem_cons_succ]
    exact gcdaRecs_drop data (o' :: rest) e (by simpa using he) h.2

/-- either side, followed by the records from `i` on, is the whole file -/
theorem gcdaRecs_take (data : List Nat) (offs : List Nat) (i : Nat) (hi : i < offs.length) (h0 : 0 < offs.length)
    (h : Ascending offs) : data.take offs[0] ++ ((gcdaRecs data offs).take i).flatten = data.take offs[i] := by
  apply List.append_cancel_right (bs := ((gcdaRecs data offs).drop i).flatten)
  rw [List.append_assoc, ← List.flatten_append, List.take_append_drop, gcdaRecs_drop data offs i hi h,
    List.take_append_drop]
  have := gcdaRecs_drop data offs 0 h0 h
  rw [List.drop_zero] at this
  rw [this, List.take_append_drop]

end Cvise
