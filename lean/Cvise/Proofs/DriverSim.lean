import Cvise.Proofs.DriverRound
import Cvise.Proofs.RoundPar
/-! C02: under the contract of well-behaved candidates the side-state round of the driver model (`D.roundLoop`, the
    one tied to the code) returns exactly what the scheduling skeleton `R.loop` returns, hence — by
    `R.WBon.round_eq_seq`, the contract being asked of the round's own candidates only — what the sequential scan
    returns, for every schedule. -/
namespace Cvise.D
variable {C σ : Type} [DecidableEq C]

/-- the verdict of a candidate as the skeleton sees it -/
def vd (cfg : Cfg) (size : C → Nat) (cur : C) (e : EnvRes C σ) : R.Verdict :=
  if isAccept cfg size cur e then .accept
  else if e.pr = .stop then .quit else .ignore

/-- a well-behaved candidate: no timeout, no foreign exception, no swallowed exception, no helper ERROR, an OK result
    changes the file, and the give-up limit is not reached -/
structure Tame (cfg : Cfg) (cur : C) (e : EnvRes C σ) : Prop where
  noTimeout : e.exit ≠ some .timeout
  noForeign : e.exit ≠ some .foreign
  tested : e.pr = .ok → ∃ n, e.exit = some (.code n)
  noError : e.pr ≠ .error
  changed : e.pr = .ok → e.cand ≠ cur
  noGiveUp : e.order ≤ cfg.giveup

def outOf : R.Verdict → Outcome
  | .accept => .accept
  | .ignore => .ignore
  | .quit => .quit
  | .timeout => .ignore

theorem vd_ne_timeout (cfg : Cfg) (size : C → Nat) (cur : C) (e : EnvRes C σ) : vd cfg size cur e ≠ .timeout := by
  unfold vd
  split
  · simp
  · split <;> simp

theorem vd_eq_quit (cfg : Cfg) (size : C → Nat) (cur : C) (e : EnvRes C σ) : vd cfg size cur e = .quit ↔ e.pr = .stop := by
  unfold vd
  split
  · rename_i ha
    simp [((isAccept_iff cfg size cur e).mp ha).1]
  · split <;> simp [*]

theorem check_tame (cfg : Cfg) (size : C → Nat) (cur : C) (e : EnvRes C σ) (g : Side C) (gu : Bool)
    (h : Tame cfg cur e) : ∃ g', check cfg size cur e g gu = (outOf (vd cfg size cur e), g', gu) := by
  have h6 : ¬ e.order > cfg.giveup := Nat.not_lt.mpr h.noGiveUp
  by_cases h0 : e.pr = .ok ∧ e.exit = some (.code 0)
  · -- a successful test of a changed file: ACCEPT, unless the improvement is too large
    have hne := h.changed h0.1
    cases hm : cfg.maxImp with
    | none => simp [check, vd, isAccept, outOf, h0, hne, hm]
    | some m => by_cases hb : (size cur : Int) - size e.cand > m <;> simp [check, vd, isAccept, outOf, h0, hne, hm, hb]
  · -- a failed candidate within the give-up limit is counted, then ignored; STOP ends the round
    have hacc : ¬ isAccept cfg size cur e = true := fun ha =>
      have hok := (isAccept_iff cfg size cur e).mp ha
      h0 ⟨hok.1, hok.2.1⟩
    simp only [vd, hacc, check, h0, if_false]
    cases hpr : e.pr with
    | ok =>
      obtain ⟨n, hn⟩ := h.tested hpr
      simp [hn, h6, outOf]
    | stop => simp [outOf]
    | error => exact absurd hpr h.noError
    | invalid | crash => simp [h6, outOf]

/-- for any timeout limit `MAXT` of the skeleton: tame candidates never time out, so the limit is never consulted (and `outOf` of
    `.timeout` is never asked for) -/
theorem processDone_sim (MAXT : Nat) (cfg : Cfg) (size : C → Nat) (cur : C) (env : Nat → EnvRes C σ) (done : Nat → Bool)
    : ∀ (L : List Nat) (g : Side C) (rs : RS) (q : Bool), (∀ i ∈ L, Tame cfg cur (env i)) →
      ∃ k q' g', processDone cfg size cur env done L g rs q = .inl ((k, rs, q'), g') ∧
        R.processDone MAXT done (fun i => vd cfg size cur (env i)) L rs.tc q = (k, rs.tc, q') := by
  intro L
  induction L with
  | nil => intro g rs q _; exact ⟨[], q, g, rfl, rfl⟩
  | cons i L ih =>
    intro g rs q hL
    have ih := fun g rs q => ih g rs q (fun j hj => hL j (List.mem_cons_of_mem _ hj))
    have ti := hL i List.mem_cons_self
    obtain ⟨g1, hck⟩ := check_tame cfg size cur (env i) g rs.gu ti
    -- with these two in the context, `simp` takes the last arm of the `match` on the exit
    have h1 := ti.noTimeout
    have h2 := ti.noForeign
    simp only [processDone, R.processDone, hck]
    cases q with
    | true => exact ih g rs true
    | false =>
      cases hd : done i with
      | false =>
        obtain ⟨k, q', g', e1, e2⟩ := ih g rs false
        exact ⟨i :: k, q', g', by simp only [e1, Bool.false_eq_true, if_false], by simp only [e2, Bool.false_eq_true, if_false]⟩
      | true =>
        cases hv : vd cfg size cur (env i) with
        | accept =>
          obtain ⟨k, q', g', e1, e2⟩ := ih g1 rs true
          exact ⟨i :: k, q', g', by simp only [outOf, e1, Bool.false_eq_true, if_false, if_true],
            by simp only [e2, Bool.false_eq_true, if_false, if_true]⟩
        | ignore => exact ih g1 rs false
        | quit => exact ih g1 rs true
        | timeout => exact absurd hv (vd_ne_timeout cfg size cur (env i))

theorem wfs_sim (cfg : Cfg) (size : C → Nat) (cur : C) (env : Nat → EnvRes C σ)
    : ∀ (L : List Nat) (g : Side C) (rs : RS), (∀ i ∈ L, Tame cfg cur (env i)) →
      ∃ g', wfs cfg size cur env L g rs = .inl (R.wfs (fun i => vd cfg size cur (env i)) L, g') := by
  intro L
  induction L with
  | nil => intro g rs _; exact ⟨g, rfl⟩
  | cons i L ih =>
    intro g rs hL
    have ti := hL i List.mem_cons_self
    obtain ⟨g1, hck⟩ := check_tame cfg size cur (env i) g rs.gu ti
    -- for `simp`, as in `processDone_sim`
    have h1 := ti.noTimeout
    have h2 := ti.noForeign
    cases hv : vd cfg size cur (env i) with
    | accept => exact ⟨g1, by simp [wfs, R.wfs, hck, hv, outOf]⟩
    | ignore | quit => simpa [wfs, R.wfs, hck, hv, outOf] using ih g1 rs (fun j hj => hL j (List.mem_cons_of_mem _ hj))
    | timeout => exact absurd hv (vd_ne_timeout cfg size cur (env i))

theorem roundLoop_sim (MAXT : Nat) (cfg : Cfg) (size : C → Nat) (pkey : Nat) (cur : C) (env : Nat → EnvRes C σ)
    (done : Nat → Nat → Bool) (m : Nat) (ht : ∀ i, i < m → Tame cfg cur (env i)) :
    ∀ (fuel t : Nat) (futs : List Nat) (g : Side C) (rs : RS), t < m → m - t ≤ fuel → (∀ i ∈ futs, i < m) →
      ∃ g', roundLoop cfg size pkey cur env (fun t => decide (t < m)) done fuel t futs g rs =
        .inl (R.loop MAXT (fun i => vd cfg size cur (env i)) done m t futs rs.tc, g') := by
  intro fuel
  induction fuel with
  | zero => intro t futs g rs h1 h2; omega
  | succ f ih =>
    intro t futs g rs h1 h2 hf
    simp only [roundLoop]
    unfold R.loop
    obtain ⟨k, q', g1, e1, e2⟩ := processDone_sim MAXT cfg size cur env (done t) futs g rs false
      (fun i hi => ht i (hf i hi))
    have hsub : k.Sublist futs := by
      simpa only [e2] using R.processDone_sublist MAXT (done t) (fun i => vd cfg size cur (env i)) futs rs.tc false
    have hk : ∀ i ∈ k, i < m := fun i hi => hf i (hsub.subset hi)
    have hkt : ∀ i ∈ k ++ [t], i < m := by
      simp only [List.mem_append, List.mem_singleton]
      rintro i (hi | rfl)
      · exact hk i hi
      · exact h1
    rw [e1, e2]
    by_cases hq : q' = true
    · simp only [hq, if_true]
      exact wfs_sim cfg size cur env k g1 rs (fun i hi => ht i (hk i hi))
    · simp only [hq, Bool.false_eq_true, if_false]
      by_cases hend : t + 1 < m
      · simp only [hend, decide_true, if_true, Nat.not_le.mpr hend, dite_false]
        exact ih (t+1) (k ++ [t]) _ rs hend (by omega) hkt
      · simp only [hend, decide_false, Bool.false_eq_true, if_false, Nat.le_of_not_lt hend, dite_true]
        exact wfs_sim cfg size cur env (k ++ [t]) _ rs (fun i hi => ht i (hkt i hi))

theorem round_winner_eq_seq (cfg : Cfg) (size : C → Nat) (pkey : Nat) (cur : C) (env : Nat → EnvRes C σ)
    (done : Nat → Nat → Bool) (m : Nat) (hm : 0 < m) (ht : ∀ i, i < m → Tame cfg cur (env i))
    (hstop : ∀ i j, i < j → j < m → (env i).pr = .stop → (env j).pr = .stop)
    (fuel : Nat) (hf : m ≤ fuel) (g : Side C) :
    ∃ g', roundLoop cfg size pkey cur env (fun t => decide (t < m)) done fuel 0 [] g {} =
      .inl (R.seqFirst (fun i => vd cfg size cur (env i)) m 0, g') := by
  have wb : R.WBon (· < m) (fun i => vd cfg size cur (env i)) :=
    ⟨fun i _ => vd_ne_timeout cfg size cur (env i),
     fun i j _ hj hij hq => (vd_eq_quit cfg size cur _).mpr (hstop i j hij hj ((vd_eq_quit cfg size cur _).mp hq))⟩
  obtain ⟨g', e⟩ := roundLoop_sim cfg.maxTimeouts cfg size pkey cur env done m ht fuel 0 [] g {} hm (by omega) (by simp)
  exact ⟨g', by rw [e, wb.round_eq_seq cfg.maxTimeouts done hm]⟩

end Cvise.D
