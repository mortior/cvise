import Cvise.Proofs.DriverPar
import Cvise.Proofs.DriverSafe
/-! C10 for whole runs: with well-behaved passes, no scripted faults, the replay table keyed on the joint contents and
    futures released before the growth bail-out, a reduction with the table and one without it (`--no-cache`) end with
    the same files — for every pair of schedules, one for each run. -/
namespace Cvise.D
variable {C σ : Type} [DecidableEq C] [Inhabited σ] [Inhabited C]

/-- the interestingness test is a deterministic function of the files: no per-invocation fault is scripted -/
def NoFaults (W : World C) : Prop := ∀ r o, W.fault r o = none

/-- the same settings with `--no-cache` -/
def noCache (cfg : Cfg) : Cfg := { cfg with cacheOn := false }

theorem envOf_rid (W : World C) (hnf : NoFaults W) (P : PassI C σ) (disk : List C) (k : Nat) (cur : C) (s : σ) (rid rid' : Nat) :
    envOf W P disk k cur s rid = envOf W P disk k cur s rid' := by
  funext i
  unfold envOf
  rw [hnf rid, hnf rid']

theorem vd_noCache (cfg : Cfg) (size : C → Nat) (cur : C) (e : EnvRes C σ) : vd (noCache cfg) size cur e = vd cfg size cur e := rfl

theorem Tame.noCache {cfg : Cfg} {cur : C} {e : EnvRes C σ} (h : Tame cfg cur e) : Tame (noCache cfg) cur e :=
  ⟨h.1, h.2, h.3, h.4, h.5, h.6⟩

theorem GoodPass.noCache {cfg : Cfg} {W : World C} {P : PassI C σ} (hg : GoodPass cfg W P) : GoodPass (noCache cfg) W P := by
  intro disk k s rid
  obtain ⟨m, hm0, hmf, hmore, htame, hstop⟩ := hg disk k s rid
  exact ⟨m, hm0, hmf, hmore, fun i hi => (htame i hi).noCache, hstop⟩

def OkSame (r r' : LRes C) : Prop :=
  match r, r' with
  | .inl (x, _), .inl (y, _) => x.disk = y.disk ∧ x.leftover = false ∧ y.leftover = false
  | _, _ => False

/-- the rounds on one file are a function of the files: round ids, schedules, statistics and logs do not matter -/
theorem fileLoop_disk_fun (cfg : Cfg) (hr : cfg.releaseBeforeBail = true) (W : World C) (hnf : NoFaults W)
    (P : PassI C σ) (hg : GoodPass cfg W P) (d d' : Sched) (k startSize : Nat) :
    ∀ (fuel rid rid' : Nat) (s : σ) (succ : Nat) (x y : St C), x.disk = y.disk → x.leftover = false → y.leftover = false →
      OkSame (fileLoop cfg W d P k startSize fuel rid s succ x) (fileLoop (noCache cfg) W d' P k startSize fuel rid' s succ y) := by
  intro fuel
  induction fuel with
  | zero => intro rid rid' s succ x y h hx hy; exact ⟨h, hx, hy⟩
  | succ f ih =>
    intro rid rid' s succ x y h1 hx hy
    rw [fileLoop_succ, fileLoop_succ, if_neg (by simp [hx]), if_neg (by simp [hy]), ← h1,
      envOf_rid W hnf P x.disk k (x.disk.getD k default) s rid' rid]
    -- both rounds return the first interesting candidate, with or without the table, whatever their schedules
    obtain ⟨m, hm0, hmf, hmore, htame, hstop⟩ := hg x.disk k s rid
    rw [show (fun t => (nthState P (x.disk.getD k default) s t).isSome) = fun t => decide (t < m) from funext hmore]
    obtain ⟨g1, e1⟩ := round_winner_eq_seq cfg W.size P.key (x.disk.getD k default)
      (envOf W P x.disk k (x.disk.getD k default) s rid) (d rid) m hm0 htame hstop (cfg.giveup + 1000) hmf x.side
    obtain ⟨g2, e2⟩ := round_winner_eq_seq (noCache cfg) W.size P.key (x.disk.getD k default)
      (envOf W P x.disk k (x.disk.getD k default) s rid) (d' rid') m hm0 (fun i hi => (htame i hi).noCache) hstop
      (cfg.giveup + 1000) hmf y.side
    simp only [vd_noCache] at e2
    rw [e1, show (noCache cfg).giveup = cfg.giveup from rfl, e2]
    cases R.seqFirst (fun i => vd cfg W.size (x.disk.getD k default) (envOf W P x.disk k (x.disk.getD k default) s rid i)) m 0 with
    | none => exact ⟨rfl, hx, hy⟩
    | some i =>
      have hd : (commitWinner P x k (envOf W P x.disk k (x.disk.getD k default) s rid i) g1).disk =
          (commitWinner P y k (envOf W P x.disk k (x.disk.getD k default) s rid i) g2).disk := by
        simp only [commitWinner, commitSt, h1]
      refine afterCommit_rel rfl rfl rfl ⟨hd, ?_, ?_⟩ ⟨hd, hx, hy⟩ (fun s' _ _ => ih _ _ _ _ _ _ hd hx hy) <;> simp [hr]

theorem newLoop_disk_fun (cfg : Cfg) (hr : cfg.releaseBeforeBail = true) (W : World C) (hnf : NoFaults W)
    (P : PassI C σ) (hg : GoodPass cfg W P) (d d' : Sched) (k fuel rid rid' : Nat) (x y : St C) (before : C)
    (h : x.disk = y.disk) (hx : x.leftover = false) (hy : y.leftover = false) :
    OkSame (newLoop cfg W d P k fuel rid x before) (newLoop (noCache cfg) W d' P k fuel rid' y before) := by
  unfold newLoop
  obtain ⟨c1, c2⟩ := fmtStep_congr W P x y k before h
  have fx := fmtStep_frame W P x k before
  have fy := fmtStep_frame W P y k before
  have lx : (fmtStep W P x k before).1.leftover = false := by rw [fx.2.2]; exact hx
  have ly : (fmtStep W P y k before).1.leftover = false := by rw [fy.2.2]; exact hy
  rw [← c1]
  split
  · exact ⟨c2, lx, ly⟩
  · split
    · exact ⟨c2, lx, ly⟩
    · exact fileLoop_disk_fun cfg hr W hnf P hg d d' k _ fuel rid rid' _ 0 _ _ c2 lx ly

/-- every entry of the replay table is what the pass yields without the table, from any state with those files -/
def CacheOK (cfg : Cfg) (W : World C) (fuel : Nat) (PS : List (PassI C σ)) (cache : List ((Nat × List C × Nat) × C)) : Prop :=
  ∀ (pk : Nat) (J : List C) (k : Nat) (v : C), cache.lookup (pk, J, k) = some v →
    ∀ P ∈ PS, P.key = pk → ∀ (d' : Sched) (rid : Nat) (y : St C), y.disk = J → y.leftover = false →
      ∃ y1 r1, newLoop (noCache cfg) W d' P k fuel rid y (J.getD k default) = .inl (y1, r1) ∧ y1.disk = J.set k v ∧ y1.leftover = false

/-- the run with the table (left) and the run without it (right) -/
def Rel (cfg : Cfg) (W : World C) (fuel : Nat) (PS : List (PassI C σ)) (r r' : LRes C) : Prop :=
  match r, r' with
  | .inl (x, _), .inl (y, _) => x.disk = y.disk ∧ x.leftover = false ∧ y.leftover = false ∧ CacheOK cfg W fuel PS x.cache
  | .inr (e, x), .inr (e', y) => e = e' ∧ x.disk = y.disk
  | _, _ => False

theorem fileStep_cache (cfg : Cfg) (hc : cfg.cacheOn = true) (hj : cfg.jointKey = true) (hr : cfg.releaseBeforeBail = true)
    (W : World C) (hnf : NoFaults W) (PS : List (PassI C σ)) (hkey : ∀ P ∈ PS, ∀ Q ∈ PS, P.key = Q.key → P = Q)
    (P : PassI C σ) (hP : P ∈ PS) (hg : GoodPass cfg W P) (d d' : Sched) (fuel : Nat) (acc acc' : LRes C) (k : Nat)
    (h : Rel cfg W fuel PS acc acc') :
    Rel cfg W fuel PS (fileStep cfg W d P fuel acc k) (fileStep (noCache cfg) W d' P fuel acc' k) := by
  -- a hit replays what the run without the table computes (`CacheOK`); a miss computes the same as that run
  -- (`newLoop_disk_fun`) and stores it, and the new entry is what any such run yields from these files (`newLoop_disk_fun`
  -- again; `hkey`: the table is looked up by key, so the key must name the pass)
  unfold fileStep
  rcases acc with ⟨x, a⟩ | ⟨e, x⟩ <;> rcases acc' with ⟨y, b⟩ | ⟨e', y⟩ <;> simp only [Rel] at h
  · obtain ⟨h1, hx, hy, hok⟩ := h
    have hnc : (noCache cfg).cacheOn = false := rfl
    simp only [hc, hj, hnc, if_true, Bool.false_eq_true, if_false]
    rw [← h1]
    split
    · exact ⟨h1, hx, hy, hok⟩
    · cases hl : x.cache.lookup (P.key, x.disk, k) with
      | some after =>
        obtain ⟨y1, r1, e1, hd, hlo⟩ := hok P.key x.disk k after hl P hP rfl d' b y h1.symm hy
        rw [e1]
        exact ⟨by simp [hd], hx, hlo, hok⟩
      | none =>
        have hn := newLoop_disk_fun cfg hr W hnf P hg d d' k fuel a b x y (x.disk.getD k default) h1 hx hy
        have hs := newLoop_safe cfg W d P x.disk fuel k a x (x.disk.getD k default) (Or.inl rfl)
        generalize hrx : newLoop cfg W d P k fuel a x (x.disk.getD k default) = r at hn hs ⊢
        generalize newLoop (noCache cfg) W d' P k fuel b y (x.disk.getD k default) = r' at hn ⊢
        rcases r with ⟨x1, a1⟩ | ⟨e1, x1⟩ <;> rcases r' with ⟨y1, b1⟩ | ⟨e2, y1⟩ <;> simp only [OkSame] at hn
        obtain ⟨g1, g2, g3⟩ := hn
        simp only [LRes.st] at hs
        obtain ⟨_, hcache, hrel⟩ := hs
        refine ⟨g1, g2, g3, ?_⟩
        intro pk J k' v hlook Q hQ hQk dd rid z hz hzl
        simp only [List.lookup] at hlook
        split at hlook
        · rename_i heq
          have hkeq : (pk, J, k') = (P.key, x.disk, k) := by simpa using heq
          cases hlook
          cases hkeq
          have hQP : Q = P := hkey Q hQ P hP hQk
          subst hQP
          have hz' := newLoop_disk_fun cfg hr W hnf Q hg d dd k fuel a rid x z (x.disk.getD k default) hz.symm hx hzl
          generalize newLoop (noCache cfg) W dd Q k fuel rid z (x.disk.getD k default) = rz at hz' ⊢
          rw [hrx] at hz'
          rcases rz with ⟨z1, c1⟩ | ⟨e3, z1⟩ <;> simp only [OkSame] at hz'
          exact ⟨z1, c1, rfl, by rw [← hz'.1, diskRel_set_getD default hrel], hz'.2.2⟩
        · rw [hcache] at hlook
          exact hok pk J k' v hlook Q hQ hQk dd rid z hz hzl
  · exact h

theorem Rel.agree {cfg : Cfg} {W : World C} {fuel : Nat} {PS : List (PassI C σ)} {r r' : LRes C} (h : Rel cfg W fuel PS r r') :
    LRes.Agree r r' := by
  rcases r with ⟨x, a⟩ | e <;> rcases r' with ⟨y, b⟩ | e'
  · exact h.1
  · exact h
  · exact h
  · trivial

end Cvise.D
