import Cvise.Model.Clex
/-!
Specifications of the token-editing modes of `clex/driver.c` (`rm_toks`, `rm_tok_pattern`, `delete_string`,
`shorten_string`, `x_string`) over arbitrary token arrays: what is printed, and for which indices the mode says OK (`x_string`: only that
the length is kept).
-/
namespace Cvise.C18
open Cvise.Clex

def nonBlank (ts : List Tok) : Nat := (ts.filter (fun t => !blank t)).length

end Cvise.C18

namespace Cvise.Clex
open Cvise.C18 (nonBlank)

theorem concat_cons (t : Tok) (ts : List Tok) : concat (t :: ts) = t.str ++ concat ts := List.flatMap_cons

/-- the loop's flag as exit code, its text as output -/
def ofFlag (p : Bool × List Char) : Res := ⟨if p.1 then .ok else .stop, p.2⟩

theorem ofFlag_ok (p : Bool × List Char) : (ofFlag p).exit = .ok ↔ p.1 = true := by
  cases h : p.1 <;> simp [ofFlag, h]

theorem ofFlag_stop (p : Bool × List Char) : (ofFlag p).exit = .stop ↔ p.1 = false := by
  cases h : p.1 <;> simp [ofFlag, h]

theorem ofFlag_exit (p : Bool × List Char) : (ofFlag p).exit = .ok ∨ (ofFlag p).exit = .stop := by
  cases h : p.1 <;> simp [ofFlag, h]

theorem run_rmToks (b : Bool) (n idx : Nat) (ts : List Tok) :
    run b (.rmToks n) idx ts = ofFlag (rmToksGo n idx ts 0 false false []) := rfl

theorem run_rmTokPattern (b : Bool) (n idx : Nat) (ts : List Tok) :
    run b (.rmTokPattern n) idx ts =
      let r := rmPatGo n (idx / 2 ^ (n - 1)) ts 0 false false false ((1 + 2 * (idx % 2 ^ (n - 1))) % 256) []
      ofFlag (r.1 && r.2.1, r.2.2) := rfl

theorem run_deleteString (b : Bool) (idx : Nat) (ts : List Tok) :
    run b .deleteString idx ts = ofFlag (delStrGo idx ts 0 false []) := rfl

theorem run_shortenString (b : Bool) (idx : Nat) (ts : List Tok) :
    run b .shortenString idx ts = ofFlag (shortenGo ts idx false []) := rfl

theorem run_xString (b : Bool) (idx : Nat) (ts : List Tok) :
    run b .xString idx ts = ofFlag (xStrGo idx ts 0 false []) := rfl

/-- `out` is `acc` followed by the text of a subsequence of `ts` that holds every token `p` protects -/
def Keeps (p : Tok → Bool) (ts : List Tok) (acc out : List Char) : Prop :=
  ∃ kept : List Tok, kept.Sublist ts ∧ (∀ t ∈ ts, p t = true → t ∈ kept) ∧ out = acc ++ concat kept

theorem Keeps.nil {p : Tok → Bool} {acc : List Char} : Keeps p [] acc acc := ⟨[], .slnil, by simp, by simp [concat]⟩

theorem Keeps.keep {p : Tok → Bool} {t : Tok} {ts : List Tok} {acc out : List Char}
    (h : Keeps p ts (acc ++ t.str) out) : Keeps p (t :: ts) acc out := by
  obtain ⟨kept, h1, h2, h3⟩ := h
  exact ⟨t :: kept, h1.cons_cons t, by simpa using fun u hu hb => .inr (h2 u hu hb), by simp [h3, concat]⟩

theorem Keeps.drop {p : Tok → Bool} {t : Tok} {ts : List Tok} {acc out : List Char} (ht : p t = false)
    (h : Keeps p ts acc out) : Keeps p (t :: ts) acc out := by
  obtain ⟨kept, h1, h2, h3⟩ := h
  exact ⟨kept, h1.cons t, by simpa [ht] using h2, h3⟩

theorem rmToksGo_keeps (n idx : Nat) : ∀ (ts : List Tok) (w : Nat) (s m : Bool) (acc : List Char),
    Keeps (fun _ => false) ts acc (rmToksGo n idx ts w s m acc).2
  | [], _, _, _, _ => .nil
  | t :: ts, _, _, _, _ => by
    rw [rmToksGo]
    split <;> split <;> first | exact .keep (rmToksGo_keeps ..) | exact .drop rfl (rmToksGo_keeps ..)

theorem nonBlank_cons (t : Tok) (ts : List Tok) : nonBlank (t :: ts) = nonBlank ts + if blank t then 0 else 1 := by
  cases h : blank t <;> simp [nonBlank, h]

/-- the flag is raised by the `idx`-th non-blank token, counting from `w`, and stays -/
theorem rmToksGo_fst (n idx : Nat) : ∀ (ts : List Tok) (w : Nat) (s m : Bool) (acc : List Char),
    (rmToksGo n idx ts w s m acc).1 = true ↔ m = true ∨ w ≤ idx ∧ idx < nonBlank ts + w
  | [], w, s, m, acc => by simp [rmToksGo, nonBlank]; omega
  | t :: ts, w, s, m, acc => by
    rw [rmToksGo, nonBlank_cons]
    split <;> rw [rmToksGo_fst n idx ts] <;> cases m <;> simp <;> omega

theorem rmPatGo_keeps (n idx : Nat) : ∀ (ts : List Tok) (w : Nat) (s m d : Bool) (pat : Nat) (acc : List Char),
    Keeps blank ts acc (rmPatGo n idx ts w s m d pat acc).2.2
  | [], _, _, _, _, _, _ => .nil
  | t :: ts, w, s, _, _, _, _ => by
    simp only [rmPatGo]
    -- the model's three `let`s for `started` are one expression: named, it leaves two tests per token where `split` sees five
    generalize (if w = idx + n then false else if w = idx then true else s) = o
    split
    · exact .keep (rmPatGo_keeps ..)
    · next hb =>
      cases o <;> simp only [Bool.not_false, Bool.not_true, if_true, Bool.false_eq_true, if_false]
      · exact .keep (rmPatGo_keeps ..)
      · split
        · exact .drop (by simpa using hb) (rmPatGo_keeps ..)
        · exact .keep (rmPatGo_keeps ..)

theorem rmPatGo_flags_true (n idx : Nat) : ∀ (ts : List Tok) (which : Nat) (started : Bool) (pat : Nat) (acc : List Char),
    (rmPatGo n idx ts which started true true pat acc).1 = true ∧ (rmPatGo n idx ts which started true true pat acc).2.1 = true := by
  intro ts
  induction ts with
  | nil => intros; simp [rmPatGo]
  | cons t ts ih =>
    intro which started pat acc
    simp only [rmPatGo, Bool.true_or]
    generalize (if which = idx + n then false else if which = idx then true else started) = o
    split
    · exact ih _ _ _ _
    · cases o <;> simp only [Bool.not_false, Bool.not_true, if_true, Bool.false_eq_true, if_false]
      · exact ih _ _ _ _
      · split <;> exact ih _ _ _ _

theorem rmPatGo_ok (n idx : Nat) (hn : 1 ≤ n) : ∀ (ts : List Tok) (which : Nat) (pat : Nat) (acc : List Char), which ≤ idx → pat % 2 = 1 →
    (((rmPatGo n idx ts which false false false pat acc).1 && (rmPatGo n idx ts which false false false pat acc).2.1) = true ↔
      idx < nonBlank ts + which) := by
  intro ts
  induction ts with
  | nil => intro which pat acc h _; simp [rmPatGo, nonBlank]; omega
  | cons t ts ih =>
    intro which pat acc h hp
    simp only [rmPatGo]
    by_cases hb : blank t = true
    · simp only [hb, if_true]
      rw [ih which pat _ h hp]
      simp [nonBlank, hb]
    · have hb' : blank t = false := by simpa using hb
      simp only [hb', Bool.false_eq_true, if_false]
      have hnb : nonBlank (t :: ts) = nonBlank ts + 1 := by simp [nonBlank, hb']
      by_cases hw : which = idx
      · subst hw
        have hne : ¬ which = which + n := by omega
        simp only [if_true, hne, if_false, Bool.false_or, decide_true, Bool.not_true, Bool.false_eq_true, hp]
        have := rmPatGo_flags_true n which ts (which + 1) true (pat / 2) acc
        simp [this.1, this.2, hnb]
      · have hne : ¬ which = idx + n := by omega
        simp only [hw, if_false, hne, Bool.false_or, decide_false, Bool.not_false, if_true]
        rw [ih (which + 1) pat _ (by omega) hp, hnb]
        omega

def fullString (t : Tok) : Bool := decide (t.kind = .string ∧ t.str ≠ emptyStr)

def fullStrings (ts : List Tok) : Nat := (ts.filter fullString).length

theorem delStrGo_done (idx : Nat) : ∀ (ts : List Tok) (w : Nat) (acc : List Char), idx < w →
    delStrGo idx ts w true acc = (true, acc ++ concat ts) := by
  intro ts
  induction ts with
  | nil => intros; simp [delStrGo, concat]
  | cons t ts ih =>
    intro w acc h
    have hne : ¬ w = idx := by omega
    simp only [delStrGo, hne, if_false]
    split
    · rw [ih _ _ (by omega)]; simp [concat, List.append_assoc]
    · rw [ih _ _ h]; simp [concat, List.append_assoc]

theorem fullStrings_cons (t : Tok) (ts : List Tok) :
    fullStrings (t :: ts) = fullStrings ts + if fullString t then 1 else 0 := by
  cases h : fullString t <;> simp [fullStrings, h]

/-- what `delete_string` owes for tokens `ts`, counter `w`, text so far `acc`: the clauses of `C18.deleteString_spec` -/
def DelSpec (idx : Nat) (ts : List Tok) (w : Nat) (acc : List Char) (r : Bool × List Char) : Prop :=
  (r.1 = true ↔ idx < fullStrings ts + w) ∧ (r.1 = false → r.2 = acc ++ concat ts) ∧
  (r.1 = true → ∃ pre t post, ts = pre ++ t :: post ∧ fullString t = true ∧ fullStrings pre + w = idx ∧
    r.2 = acc ++ concat pre ++ emptyStr ++ concat post)

/-- a token that is printed as it is: the rest of the scan owes the rest -/
theorem DelSpec.skip {idx : Nat} {t : Tok} {ts : List Tok} {w w' : Nat} {acc : List Char} {r : Bool × List Char}
    (h : DelSpec idx ts w' (acc ++ t.str) r) (hw : w' = w + if fullString t then 1 else 0) : DelSpec idx (t :: ts) w acc r := by
  obtain ⟨h1, h2, h3⟩ := h
  subst hw
  refine ⟨by rw [h1, fullStrings_cons]; omega, fun hm => by rw [h2 hm, concat_cons, List.append_assoc], fun hm => ?_⟩
  obtain ⟨pre, u, post, e1, e2, e3, e4⟩ := h3 hm
  exact ⟨t :: pre, u, post, by rw [e1]; rfl, e2, by rw [fullStrings_cons]; omega, by simp [e4, concat_cons]⟩

theorem delStrGo_spec (idx : Nat) : ∀ (ts : List Tok) (w : Nat) (acc : List Char), w ≤ idx →
    DelSpec idx ts w acc (delStrGo idx ts w false acc)
  | [], w, acc, h => by simp [DelSpec, delStrGo, fullStrings, concat]; omega
  | t :: ts, w, acc, h => by
    rw [delStrGo]
    by_cases hf : t.kind = .string ∧ t.str ≠ emptyStr
    · have hfs : fullString t = true := by simp [fullString, hf]
      rw [if_pos hf]
      by_cases hw : w = idx
      · subst hw
        rw [if_pos rfl, delStrGo_done w ts (w + 1) _ (by omega)]
        exact ⟨by simp [fullStrings_cons, hfs], by simp, fun _ => ⟨[], t, ts, rfl, hfs, by simp [fullStrings], by simp [concat]⟩⟩
      · rw [if_neg hw]
        exact (delStrGo_spec idx ts (w + 1) _ (by omega)).skip (by rw [hfs]; rfl)
    · rw [if_neg hf]
      exact (delStrGo_spec idx ts w _ h).skip (by simp [fullString, hf])

def stringChars (ts : List Tok) : Nat := ((ts.filter (fun t => t.kind = .string)).map (fun t => t.str.length - 2)).foldr (· + ·) 0

theorem shortenGo_done : ∀ (ts : List Tok) (idx : Nat) (acc : List Char), shortenGo ts idx true acc = (true, acc ++ concat ts) := by
  intro ts
  induction ts with
  | nil => intros; simp [shortenGo, concat]
  | cons t ts ih => intro idx acc; simp [shortenGo, ih, concat, List.append_assoc]

theorem stringChars_cons (t : Tok) (ts : List Tok) :
    stringChars (t :: ts) = stringChars ts + if t.kind = .string then t.str.length - 2 else 0 := by
  by_cases h : t.kind = .string <;> simp [stringChars, h, Nat.add_comm]

/-- what `shorten_string` owes for tokens `ts`, offset `idx`, text so far `acc`: the clauses of `C18.shortenString_spec` -/
def ShortenSpec (ts : List Tok) (idx : Nat) (acc : List Char) (r : Bool × List Char) : Prop :=
  (r.1 = true ↔ idx < stringChars ts) ∧ (r.1 = false → r.2 = acc ++ concat ts) ∧
  (r.1 = true → r.2.length + 1 = (concat ts).length + acc.length)

/-- a token that is passed over: the rest of the scan owes the rest -/
theorem ShortenSpec.skip {t : Tok} {ts : List Tok} {idx idx' : Nat} {acc : List Char} {r : Bool × List Char}
    (h : ShortenSpec ts idx' (acc ++ t.str) r) (hi : idx' < stringChars ts ↔ idx < stringChars (t :: ts)) :
    ShortenSpec (t :: ts) idx acc r := by
  obtain ⟨h1, h2, h3⟩ := h
  refine ⟨h1.trans hi, fun hm => by rw [h2 hm, concat_cons, List.append_assoc], fun hm => ?_⟩
  have := h3 hm
  rw [List.length_append] at this
  rw [concat_cons, List.length_append]
  omega

theorem shortenGo_spec : ∀ (ts : List Tok) (idx : Nat) (acc : List Char), ShortenSpec ts idx acc (shortenGo ts idx false acc)
  | [], idx, acc => by simp [ShortenSpec, shortenGo, stringChars, concat]
  | t :: ts, idx, acc => by
    rw [shortenGo]
    by_cases hk : t.kind = .string
    · simp only [hk, Bool.not_false, decide_true, Bool.and_self, if_true]
      split
      · exact (shortenGo_spec ts _ _).skip (by rw [stringChars_cons, if_pos hk]; omega)
      · rw [shortenGo_done]
        refine ⟨by simp [stringChars_cons, hk]; omega, by simp, fun _ => ?_⟩
        simp [concat_cons, List.length_take, List.length_drop]
        omega
    · simp only [hk, decide_false, Bool.and_false, Bool.false_eq_true, if_false]
      exact (shortenGo_spec ts _ _).skip (by rw [stringChars_cons, if_neg hk]; rfl)

theorem xChars_length (idx : Nat) : ∀ (cs : List Char) (which : Nat) (matched : Bool) (acc : List Char),
    (xChars idx cs which matched acc).2.2.length = acc.length + cs.length := by
  intro cs
  induction cs with
  | nil => intros; simp [xChars]
  | cons c cs ih =>
    intro which matched acc
    simp only [xChars]
    repeat' split
    all_goals (rw [ih]; simp [List.length_append]; omega)

theorem xStrGo_length (idx : Nat) : ∀ (ts : List Tok) (which : Nat) (matched : Bool) (acc : List Char),
    (xStrGo idx ts which matched acc).2.length = (concat ts).length + acc.length := by
  intro ts
  induction ts with
  | nil => intros; simp [xStrGo, concat]
  | cons t ts ih =>
    intro which matched acc
    simp only [xStrGo]
    split
    · have hx := xChars_length idx t.str which matched []
      generalize xChars idx t.str which matched [] = r at hx ⊢
      obtain ⟨w, m, s⟩ := r
      rw [ih]
      simp [concat, List.length_append] at hx ⊢
      omega
    · rw [ih]; simp [concat, List.length_append]; omega

end Cvise.Clex
