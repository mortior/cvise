import Cvise.Proofs.DriverSafe
import Cvise.Proofs.Measured
/-!
Termination of the L2 driver model (C03 / C09 "never wedges"): the executable definitions take fuel for the rounds of a
file (`fileLoop`) and for the scheduling iterations of a round (`roundLoop`).  For a pass with a measure `μ` that drops on
`advance` and on accept-then-`advance_on_success`, neither fuel is ever exhausted: with `μ` below both fuels the result
does not depend on the fuel — for every test, fault assignment, schedule oracle and limit setting.  (A pass without such a
measure — an endless enumeration — is ended by the give-up limit or not at all: `C16.giveup_abandons`.)
-/
namespace Cvise.D
variable {C σ : Type} [DecidableEq C] [Inhabited σ] [Inhabited C]

theorem nthState_mu (P : PassI C σ) (I : C → σ → Prop) (μ : C → σ → Nat) (h : Measured P I μ) (c : C) (s : σ) (hI : I c s) :
    ∀ (i : Nat) (si : σ), nthState P c s i = some si → I c si ∧ μ c si + i ≤ μ c s := by
  intro i
  induction i with
  | zero => intro si hs; simp [nthState] at hs; subst hs; exact ⟨hI, by omega⟩
  | succ n ih =>
    intro si hs
    simp only [nthState] at hs
    cases hn : nthState P c s n with
    | none => rw [hn] at hs; simp at hs
    | some sn =>
      rw [hn] at hs
      have := ih sn hn
      have := h.adv c sn si this.1 hs
      exact ⟨h.advI c sn si (ih sn hn).1 hs, by omega⟩

theorem nthState_ends (P : PassI C σ) (I : C → σ → Prop) (μ : C → σ → Nat) (h : Measured P I μ) (c : C) (s : σ) (hI : I c s) :
    nthState P c s (μ c s + 1) = none := by
  cases hn : nthState P c s (μ c s + 1) with
  | none => rfl
  | some si => have := (nthState_mu P I μ h c s hI _ si hn).2; omega

theorem nthState_none_succ (P : PassI C σ) (c : C) (s : σ) (t : Nat) (h : nthState P c s t = none) :
    nthState P c s (t + 1) = none := by
  simp [nthState, h]

theorem roundLoop_fuel (cfg : Cfg) (size : C → Nat) (pkey : Nat) (cur : C) (env : Nat → EnvRes C σ) (more : Nat → Bool)
    (hmono : ∀ t, more t = false → more (t + 1) = false) (done : Nat → Nat → Bool) (m : Nat) (hm : more m = false) (j : Nat) :
    ∀ (fuel t : Nat) (futs : List Nat) (g : Side C) (rs : RS), t < m → m - t ≤ fuel →
      roundLoop cfg size pkey cur env more done fuel t futs g rs = roundLoop cfg size pkey cur env more done (fuel + j) t futs g rs := by
  intro fuel
  induction fuel with
  | zero => omega
  | succ f ih =>
    intro t futs g rs h1 h2
    rw [show f + 1 + j = (f + j) + 1 by omega]
    simp only [roundLoop]
    split
    · rfl
    · split
      · rfl
      · by_cases hmore : more (t + 1) = true
        · simp only [hmore, if_true]
          have hne : t + 1 ≠ m := by intro h; rw [h, hm] at hmore; cases hmore
          exact ih (t + 1) _ _ _ (by omega) (by omega)
        · simp only [hmore]
          rfl

theorem more_mono (P : PassI C σ) (c : C) (s : σ) :
    ∀ t, (fun t => (nthState P c s t).isSome) t = false → (fun t => (nthState P c s t).isSome) (t + 1) = false := by
  intro t h
  simp only [Option.isSome_eq_false_iff, Option.isNone_iff_eq_none] at h ⊢
  exact nthState_none_succ P c s t h

theorem envOf_accept (cfg : Cfg) (W : World C) (P : PassI C σ) (disk : List C) (k : Nat) (cur : C) (s : σ) (rid i : Nat)
    (h : isAccept cfg W.size cur (envOf W P disk k cur s rid i) = true) :
    ∃ si, nthState P cur s i = some si ∧
      P.transform cur si = (.ok, (envOf W P disk k cur s rid i).cand, (envOf W P disk k cur s rid i).st) := by
  have hok := ((isAccept_iff cfg W.size cur _).mp h).1
  cases hn : nthState P cur s i with
  | none => simp [envOf, hn] at hok
  | some si =>
    refine ⟨si, rfl, ?_⟩
    rcases htr : P.transform cur si with ⟨pr, c', s'⟩
    simp only [envOf, hn, htr] at hok ⊢
    rw [hok]

theorem commitSt_getD (x : St C) (k : Nat) (c : C) (g : Side C) (hk : k < x.disk.length) :
    (commitSt x k c g).disk.getD k default = c := by
  simp [commitSt, List.getD, hk]

theorem commitSt_length (x : St C) (k : Nat) (c : C) (g : Side C) : (commitSt x k c g).disk.length = x.disk.length := by
  simp [commitSt]

theorem fileLoop_total (cfg : Cfg) (W : World C) (dn : Sched) (P : PassI C σ) (I : C → σ → Prop) (μ : C → σ → Nat) (hμ : Measured P I μ)
    (k : Nat) (startSize : Nat) (j : Nat) :
    ∀ (fuel rid : Nat) (s : σ) (succ : Nat) (x : St C), k < x.disk.length → I (x.disk.getD k default) s →
      μ (x.disk.getD k default) s < fuel → μ (x.disk.getD k default) s < cfg.giveup + 1000 →
      fileLoop cfg W dn P k startSize fuel rid s succ x = fileLoop cfg W dn P k startSize (fuel + j) rid s succ x := by
  intro fuel
  induction fuel with
  | zero => omega
  | succ f ih =>
    intro rid s succ x hk hI h1 h2
    rw [show f + 1 + j = (f + j) + 1 by omega, fileLoop_succ, fileLoop_succ]
    split
    · rfl
    · split
      · rfl
      · rfl
      · rename_i i g hr
        -- the winner is the `OK` result of `transform` on the `i`-th cursor: the measure has dropped by the time the
        -- next round starts from `advance_on_success`
        obtain ⟨si, hsi, htr⟩ := envOf_accept cfg W P x.disk k _ s rid i (roundLoop_sound cfg W.size P.key _ _ _ _ _ _ _ _ _ _ _ hr)
        have hle := nthState_mu P I μ hμ _ _ hI i si hsi
        refine afterCommit_rel rfl rfl rfl rfl rfl (fun s' haos _ => ?_)
        have hlt := hμ.acc _ _ _ _ _ hle.1 htr haos
        have hg : (commitWinner P x k (envOf W P x.disk k (x.disk.getD k default) s rid i) g).disk.getD k default =
            (envOf W P x.disk k (x.disk.getD k default) s rid i).cand := commitSt_getD _ _ _ _ hk
        refine ih _ _ _ _ (by rw [commitWinner, commitSt_length]; exact hk) ?_ ?_ ?_ <;> rw [hg]
        · exact hμ.accI _ _ _ _ _ hle.1 htr haos
        · omega
        · omega

def resDisk : LRes C → List C
  | .inl (x, _) => x.disk
  | .inr (_, x) => x.disk

omit [Inhabited C] in
theorem fmtStep_len (W : World C) (P : PassI C σ) (x : St C) (k : Nat) (before : C) :
    (fmtStep W P x k before).1.disk.length = x.disk.length := by
  rcases fmtStep_disk W P x k before with h | ⟨c, h, _⟩ <;> rw [h]
  exact List.length_set

theorem fmtStep_cur (W : World C) (P : PassI C σ) (x : St C) (k : Nat) (before c : C) (hk : k < x.disk.length)
    (hb : before = x.disk.getD k default) (h : (fmtStep W P x k before).2 = some c) :
    (fmtStep W P x k before).1.disk.getD k default = c := by
  unfold fmtStep at h ⊢
  split at h
  · cases h; exact hb.symm
  · split at h
    · cases h
      simp [List.getD, hk]
    · split at h
      · cases h
      · cases h; exact hb.symm

theorem fileStep_len (cfg : Cfg) (W : World C) (dn : Sched) (P : PassI C σ) (fuel : Nat) (acc : LRes C) (k : Nat) :
    (resDisk (fileStep cfg W dn P fuel acc k)).length = (resDisk acc).length := by
  unfold fileStep
  rcases acc with ⟨x, rid⟩ | e
  · dsimp only
    -- `by_cases` + `rw`, not `split`: `split` abstracts the whole rest of `fileStep` under the size test, which is dear
    by_cases hz : W.size (x.disk.getD k default) = 0
    · rw [if_pos hz]
    · rw [if_neg hz]
      split
      · exact List.length_set
      · -- `newLoop` changes at most file `k` (the `DiskRel` part of `newLoop_safe`)
        have := (newLoop_safe cfg W dn P x.disk fuel k rid x (x.disk.getD k default) (Or.inl rfl)).2.2.length
        generalize newLoop cfg W dn P k fuel rid x (x.disk.getD k default) = r at this ⊢
        rcases r with ⟨y, rid'⟩ | e
        · dsimp only; split <;> exact this
        · exact this
  · rfl

/-- the pass has a measure below both fuels (a uniform bound keeps the statement simple; `fileLoop_total` only needs the
    measure of the cursor the file starts from) -/
def Terminating (cfg : Cfg) (fuel : Nat) (P : PassI C σ) : Prop :=
  ∃ (I : C → σ → Prop) (μ : C → σ → Nat), Measured P I μ ∧ ∀ c s, μ c s < fuel ∧ μ c s < cfg.giveup + 1000

theorem newLoop_total (cfg : Cfg) (W : World C) (dn : Sched) (P : PassI C σ) (fuel j : Nat) (hP : Terminating cfg fuel P)
    (k rid : Nat) (x : St C) (before : C) (hk : k < x.disk.length) (hbef : before = x.disk.getD k default) :
    newLoop cfg W dn P k fuel rid x before = newLoop cfg W dn P k (fuel + j) rid x before := by
  obtain ⟨I, μ, hμ, hb⟩ := hP
  unfold newLoop
  split
  · rfl
  · split
    · rfl
    · rename_i c hfc _ s hnew
      have hk' : k < (fmtStep W P x k before).1.disk.length := by rw [fmtStep_len]; exact hk
      -- enumeration starts from the content `new` was given, which is what the file holds after the rewriting step
      have hc := fmtStep_cur W P x k before c hk hbef hfc
      exact fileLoop_total cfg W dn P I μ hμ k _ j fuel rid s 0 _ hk' (by rw [hc]; exact hμ.newI c s hnew) (hb _ _).1 (hb _ _).2

theorem fileStep_total (cfg : Cfg) (W : World C) (dn : Sched) (P : PassI C σ) (fuel j : Nat) (hP : Terminating cfg fuel P)
    (acc : LRes C) (k : Nat) (hk : k < (resDisk acc).length) :
    fileStep cfg W dn P fuel acc k = fileStep cfg W dn P (fuel + j) acc k := by
  unfold fileStep
  cases acc with
  | inr e => rfl
  | inl xr =>
    obtain ⟨x, rid⟩ := xr
    simp only
    rw [newLoop_total cfg W dn P fuel j hP k rid x _ hk rfl]

theorem runPass_len (cfg : Cfg) (W : World C) (dn : Sched) (P : PassI C σ) (order : List Nat) (fuel rid : Nat) (x : St C) :
    (resDisk (runPass cfg W dn P order fuel rid x)).length = x.disk.length :=
  runPass_lift (fun r => (resDisk r).length = x.disk.length) P order rid x rfl rfl
    (fun r k _ hr => (fileStep_len cfg W dn P fuel r k).trans hr)

/-- the visiting order only names files that exist -/
def OrderOK (orderOf : List C → List Nat) : Prop := ∀ (disk : List C) (k : Nat), k ∈ orderOf disk → k < disk.length

theorem reduce_total (cfg : Cfg) (W : World C) (dn : Sched) (orderOf : List C → List Nat) (ho : OrderOK orderOf) (fuel j : Nat)
    (first main last : List (PassI C σ)) (x : St C)
    (h : ∀ P, P ∈ first ∨ P ∈ main ∨ P ∈ last → Terminating cfg fuel P) :
    reduce cfg W dn orderOf fuel first main last x = reduce cfg W dn orderOf (fuel + j) first main last x := by
  refine reduce_rel Eq (fun r _ e => e ▸ .refl r) first main last ?_ x rfl
  intro P hP x a y b e
  cases e
  -- the two runs of a pass stay equal, and the number of files stays what it was, so every index of the order stays valid
  refine (runPass_rel (fun r r' => r = r' ∧ (resDisk r).length = x.disk.length) P _ a a x x rfl ⟨rfl, rfl⟩ ⟨rfl, rfl⟩ ?_).1
  rintro r _ k hk ⟨rfl, hl⟩
  exact ⟨fileStep_total cfg W dn P fuel j (h P hP) r k (hl ▸ ho x.disk k hk),
    (fileStep_len cfg W dn P fuel r k).trans hl⟩

/-- the size a main-loop outcome carries (0 for an error: the loop stops there anyway) -/
def resTotal (W : World C) : LRes C → Nat
  | .inl (x, _) => totalSize W.size x.disk
  | .inr _ => 0

theorem mainLoop_stops (cfg : Cfg) (W : World C) (dn : Sched) (orderOf : List C → List Nat) (fuel : Nat)
    (ps : List (PassI C σ)) : ∀ (k : Nat) (acc : LRes C), resTotal W acc < k →
      ∀ n, k ≤ n → mainLoop cfg W dn orderOf fuel ps n acc = mainLoop cfg W dn orderOf fuel ps k acc := by
  intro k
  induction k with
  | zero => omega
  | succ k ih =>
    intro acc h n hn
    cases n with
    | zero => omega
    | succ n =>
      simp only [mainLoop]
      cases acc with
      | inr e => rfl
      | inl xr =>
        obtain ⟨x, rid⟩ := xr
        simp only [resTotal] at h
        simp only
        split
        · rfl
        · cases hr : runPasses cfg W dn orderOf fuel ps (.inl (x, rid)) with
          | inr e => rfl
          | inl yr =>
            obtain ⟨y, rid'⟩ := yr
            simp only
            split
            · rfl
            · exact ih (.inl (y, rid')) (by simp only [resTotal]; omega) n (by omega)

end Cvise.D
