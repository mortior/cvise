import Cvise.Proofs.PassesBalTerm
import Cvise.Proofs.PassesC07
/-! C07 "every instance is eventually offered" for `balanced` (arguments without a prefix expression): under the
    all-reject history, every balanced group whose recipe changes the text shows up as a candidate.  `find` returns the
    leftmost group, so each rejected step moves the start to the right but never past the start `a` of a given group; once the
    start is `a`, the closing position is unique and the cursor is that group. -/
namespace Cvise.P
open Cvise Cvise.M Cvise.D

theorem balFind_reaches (cfg : BalCfg) (hp : cfg.pre = none) (s : Text) (pos : Nat) (a b : Nat)
    (hb : Bal cfg.o cfg.c s a b) (hpa : pos ≤ a) :
    ∃ st, balFind cfg s (pos : Int) = some st ∧ pos ≤ st.1 ∧ st.1 ≤ a ∧ Bal cfg.o cfg.c s st.1 st.2 ∧ (st.1 = a → st = (a, b)) := by
  have hc := rxOracle_contract Gen.rxTable
  cases hf : balFind cfg s (pos : Int) with
  | none =>
    exfalso
    unfold balFind at hf
    rw [hp] at hf
    exact C12.find_none rxo hc cfg.o cfg.c s pos hf (by omega) a (by exact_mod_cast hpa) b hb
  | some st =>
    obtain ⟨a', b'⟩ := st
    have hf' : find rxo cfg.o cfg.c none s (pos : Int) = some (a', b') := by
      unfold balFind at hf; rw [hp] at hf; exact hf
    obtain ⟨j1, j2, j3⟩ := C12.find_leftmost rxo hc cfg.o cfg.c s pos a' b' hf'
    have hle : a' ≤ a := by
      rcases Nat.lt_or_ge a a' with h | h
      · exact absurd hb (j3 a (by exact_mod_cast hpa) h b)
      · exact h
    refine ⟨(a', b'), rfl, by exact_mod_cast j1, hle, j2, ?_⟩
    intro heq
    subst heq
    rw [bal_unique cfg.o cfg.c s a' b' b j2 hb]

theorem balLoop_finds (cfg : BalCfg) (hp : cfg.pre = none) (s : Text) (a b : Nat) (hb : Bal cfg.o cfg.c s a b)
    (hch : cfg.recipe.eval s [a, b] ≠ s) : ∀ (fuel : Nat) (st : Span), st.1 ≤ a → (st.1 = a → st = (a, b)) → a - st.1 < fuel →
      ∃ out st', balTransformLoop cfg s fuel st = (.ok, out, st') ∧ (st.1 = a → out = cfg.recipe.eval s [a, b]) := by
  intro fuel
  induction fuel with
  | zero => omega
  | succ f ih =>
    intro st hle heq hf
    simp only [balTransformLoop]
    split
    · refine ⟨_, _, rfl, ?_⟩
      intro h
      rw [heq h]
    · rename_i hsame
      have hne : st.1 ≠ a := by
        intro h
        rw [heq h] at hsame
        exact hsame hch
      obtain ⟨st1, h1, h2, h3, _, h5⟩ := balFind_reaches cfg hp s (st.1 + 1) a b hb (by omega)
      have h1' : balFind cfg s ((st.1 : Int) + 1) = some st1 := by exact_mod_cast h1
      rw [h1']
      obtain ⟨out, st', e, _⟩ := ih st1 h3 h5 (by omega)
      exact ⟨out, st', e, fun h => absurd h hne⟩

theorem balanced_offers_from (cfg : BalCfg) (hp : cfg.pre = none) (s : Text) (a b : Nat) (hb : Bal cfg.o cfg.c s a b)
    (hch : cfg.recipe.eval s [a, b] ≠ s) (ha : a ≤ s.length) : ∀ (n : Nat) (st : Span) (acc : List (PR × Text)),
      st.1 ≤ a → (st.1 = a → st = (a, b)) → a - st.1 < n →
      (PR.ok, cfg.recipe.eval s [a, b]) ∈ (runHistory (balanced cfg) (List.replicate n false) s (some st) acc).1 := by
  intro n
  induction n with
  | zero => omega
  | succ m ih =>
    intro st acc hle heq hn
    obtain ⟨out, st', e, hout⟩ := balLoop_finds cfg hp s a b hb hch (s.length + 2) st hle heq (by omega)
    have htr : (balanced cfg).transform s st = (.ok, out, st') := e
    rw [List.replicate_succ, runHistory_cons (balanced cfg) false _ s st acc .ok out st' htr]
    by_cases h : st.1 = a
    · apply runHistory_acc_subset
      rw [hout h]
      simp
    · obtain ⟨st1, h1, h2, h3, _, h5⟩ := balFind_reaches cfg hp s (st.1 + 1) a b hb (by omega)
      have h1' : (balanced cfg).advance s st = some st1 := by exact_mod_cast h1
      rw [h1']
      exact ih st1 _ h3 h5 (by omega)

theorem balanced_offers_all (cfg : BalCfg) (hp : cfg.pre = none) (s : Text) (a b : Nat) (hb : Bal cfg.o cfg.c s a b)
    (hch : cfg.recipe.eval s [a, b] ≠ s) (n : Nat) (hn : s.length < n) :
    (PR.ok, cfg.recipe.eval s [a, b]) ∈ (runHistory (balanced cfg) (List.replicate n false) s ((balanced cfg).new s) []).1 := by
  have ha : a ≤ s.length := by have := hb.1; omega
  obtain ⟨st0, h1, _, h3, _, h5⟩ := balFind_reaches cfg hp s 0 a b hb (Nat.zero_le _)
  have : (balanced cfg).new s = some st0 := by exact_mod_cast h1
  rw [this]
  exact balanced_offers_from cfg hp s a b hb hch ha n st0 [] h3 h5 (by omega)

theorem balanced_deletion_sublist (cfg : BalCfg) (hd : deletingShape cfg.recipe = true) (s : Text) (st : Span) (hI : BalI s st)
    (out : Text) (st' : Span) (h : (balanced cfg).transform s st = (.ok, out, st')) : out.Sublist s ∧ out ≠ s := by
  obtain ⟨l1, l2, _, l4⟩ := balLoop_ok cfg s _ st out st' h
  refine ⟨?_, l2⟩
  rw [l1]
  exact deleting_eval_sublist cfg.recipe hd s _ _ (l4 hI).1

theorem balanced_deleting_args :
    (Gen.balancedCfg.filter (fun x => !deletingShape x.2.2.2.2)).map (·.1) = ["parens-to-zero", "curly2"] := by decide +kernel

end Cvise.P
