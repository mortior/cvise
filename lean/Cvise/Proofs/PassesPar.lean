import Cvise.Proofs.PassesTernTerm
import Cvise.Proofs.DriverTotal
/-! The pass models of `balanced` and `ternary` plugged into the driver model: their measures keep the rounds on a file from
    running out of fuel (`fileLoop_total`).  `hsz`: `GIVEUP_CONSTANT + 1000` is the round fuel of the model (a constant of the
    model, not of the code), which `fileLoop_total` asks the measure to stay below. -/
namespace Cvise.P
open Cvise Cvise.M Cvise.D

instance : Inhabited Span := ⟨(0, 0)⟩

theorem balanced_parallel_terminates (cfg : Cfg) (W : World Text) (dn : Sched) (bc : BalCfg) (hsh : shapeShrinks bc.recipe = true)
    (key : Nat) (maxT : Option Nat) (k startSize j rid : Nat) (st : Span) (succ : Nat) (x : D.St Text) (hk : k < x.disk.length)
    (hI : BalI (x.disk.getD k default) st) (hsz : 2 * (x.disk.getD k default).length + 2 ≤ cfg.giveup + 1000) :
    fileLoop cfg W dn ((balanced bc).toI key maxT) k startSize (2 * (x.disk.getD k default).length + 2) rid st succ x =
    fileLoop cfg W dn ((balanced bc).toI key maxT) k startSize (2 * (x.disk.getD k default).length + 2 + j) rid st succ x := by
  apply fileLoop_total cfg W dn _ BalI balMu (balanced_measured bc hsh key maxT) k startSize j _ rid st succ x hk hI
  · unfold balMu; omega
  · unfold balMu; omega

theorem ternary_parallel_terminates (cfg : Cfg) (W : World Text) (dn : Sched) (arg : String) (harg : arg = "b" ∨ arg = "c")
    (key : Nat) (maxT : Option Nat) (k startSize j rid : Nat) (st : TernSt) (succ : Nat) (x : D.St Text) (hk : k < x.disk.length)
    (hI : TernI (x.disk.getD k default) st) (hsz : 2 * (x.disk.getD k default).length + 2 ≤ cfg.giveup + 1000) :
    fileLoop cfg W dn ((ternary arg).toI key maxT) k startSize (2 * (x.disk.getD k default).length + 2) rid st succ x =
    fileLoop cfg W dn ((ternary arg).toI key maxT) k startSize (2 * (x.disk.getD k default).length + 2 + j) rid st succ x := by
  apply fileLoop_total cfg W dn _ TernI ternMu (ternary_measured arg harg key maxT) k startSize j _ rid st succ x hk hI
  · unfold ternMu; omega
  · unfold ternMu; omega

end Cvise.P
