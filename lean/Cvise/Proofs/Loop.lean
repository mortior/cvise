/-! The fuel loop that `run`, `gcdaRun` and `ifsRun` are instances of, with its proof rules: an invariant, a measure,
    more fuel, and the traced loop. -/
namespace Cvise
universe u v w
variable {σ : Type u} {ρ : Type v} {τ : Type w}

/-- Written with `Sum.elim`, not `match`: every `match` is a constant of its own,
    and a loop of the model could then be compared with this one only after a case split. -/
def iter (f : σ → Sum σ ρ) : Nat → σ → Option ρ
  | 0, _ => none
  | n + 1, x => Sum.elim (iter f n) some (f x)

theorem iter_succ (f : σ → Sum σ ρ) (n : Nat) (x : σ) : iter f (n + 1) x = Sum.elim (iter f n) some (f x) := rfl

theorem iter_unique {f : σ → Sum σ ρ} {r : Nat → σ → Option ρ} (h0 : ∀ x, r 0 x = none)
    (hs : ∀ n x, r (n + 1) x = Sum.elim (r n) some (f x)) : r = iter f := by
  funext n
  induction n with
  | zero => funext x; exact h0 x
  | succ n ih => funext x; rw [hs, ih]; rfl

theorem Sum.elim_imp {P P' : σ → Prop} {Q Q' : ρ → Prop} {s : Sum σ ρ} (h : Sum.elim P Q s)
    (hp : ∀ y, P y → P' y) (hq : ∀ r, Q r → Q' r) : Sum.elim P' Q' s := by
  cases s with
  | inl y => exact hp y h
  | inr r => exact hq r h

theorem Sum.elim_of_inl {P : σ → Prop} {Q : ρ → Prop} {s : Sum σ ρ} {y : σ} (h : Sum.elim P Q s) (hs : s = .inl y) : P y := by
  rw [hs] at h
  exact h

theorem Sum.elim_of_inr {P : σ → Prop} {Q : ρ → Prop} {s : Sum σ ρ} {r : ρ} (h : Sum.elim P Q s) (hs : s = .inr r) : Q r := by
  rw [hs] at h
  exact h

theorem iter_elim {f : σ → Sum σ ρ} {P : σ → Prop} {Q : ρ → Prop} (h : ∀ x, P x → Sum.elim P Q (f x)) :
    ∀ {n x r}, P x → iter f n x = some r → Q r := by
  intro n
  induction n with
  | zero => intro x r _ hr; cases hr
  | succ n ih =>
    intro x r hx hr
    have := h x hx
    rw [iter_succ] at hr
    cases hf : f x with
    | inl y => rw [hf] at hr; exact ih (Sum.elim_of_inl this hf) hr
    | inr q => rw [hf] at hr; cases hr; exact Sum.elim_of_inr this hf

theorem iter_total {f : σ → Sum σ ρ} {P : σ → Prop} (m : σ → Nat)
    (h : ∀ x, P x → Sum.elim (fun y => P y ∧ m y < m x) (fun _ => True) (f x)) :
    ∀ {n x}, P x → m x < n → ∃ r, iter f n x = some r := by
  intro n
  induction n with
  | zero => intro x _ hm; cases hm
  | succ n ih =>
    intro x hx hm
    have := h x hx
    rw [iter_succ]
    cases hf : f x with
    | inl y => rw [hf] at this; exact ih this.1 (Nat.lt_of_lt_of_le this.2 (Nat.le_of_lt_succ hm))
    | inr q => exact ⟨q, rfl⟩

theorem iter_mono {f : σ → Sum σ ρ} : ∀ {n x r}, iter f n x = some r → ∀ {k}, n ≤ k → iter f k x = some r := by
  intro n
  induction n with
  | zero => intro x r h; cases h
  | succ n ih =>
    intro x r h k hk
    cases k with
    | zero => cases hk
    | succ k =>
      rw [iter_succ] at h ⊢
      cases hf : f x with
      | inl y => rw [hf] at h; exact ih h (Nat.le_of_succ_le_succ hk)
      | inr q => rw [hf] at h; exact h

theorem trace_fst {f : σ → Sum σ ρ} {obs : σ → τ} {rt : Nat → σ → List τ → Option (ρ × List τ)}
    (h0 : ∀ x a, rt 0 x a = none)
    (hs : ∀ n x a, rt (n + 1) x a = Sum.elim (fun y => rt n y (a ++ [obs x])) (fun q => some (q, a ++ [obs x])) (f x)) :
    ∀ n x a, (rt n x a).map (·.1) = iter f n x := by
  intro n
  induction n with
  | zero => intro x a; rw [h0]; rfl
  | succ n ih =>
    intro x a
    rw [hs, iter_succ]
    cases f x with
    | inl y => exact ih _ _
    | inr q => rfl

end Cvise
