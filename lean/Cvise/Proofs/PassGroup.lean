import Cvise.Model.PassGroup
namespace Cvise.PG

/-- what the documented rule says about one entry -/
def selSpec (K : Known) (o : Opts) (e : Entry) : Option Sel :=
  match e.pass?.bind (fun n => K.passes.lookup n) with
  | some cls => if selected o e cls then some { cls := cls, arg := e.arg, maxT := e.maxT } else none
  | none => none

theorem includePass_ok (K : Known) (o : Opts) (e : Entry) (b : Bool) (h : includePass K o e = .ok b) :
    (inclOk o e && exclOk o e) = b := by
  unfold includePass at h
  unfold inclOk exclOk
  cases hi : e.incl <;> cases hx : e.excl <;> simp only [hi, hx] at h ⊢ <;> grind

/-- the `if` chain of `entry` is the conjunction `selected`, and every error exit comes before an answer -/
theorem entry_spec (eager : Bool) (K : Known) (o : Opts) (cat : String) (e : Entry) (r : Option Sel)
    (h : entry eager K o cat e = .ok r) : r = selSpec K o e := by
  unfold entry at h
  simp only at h
  split at h
  · cases h
  · split at h
    · cases h
    · rename_i hinc
      cases h
      have hf := includePass_ok K o e false hinc
      unfold selSpec selected
      cases hp : e.pass?.bind (fun n => K.passes.lookup n) with
      | none => rfl
      | some cls => simp [hf]
    · rename_i hinc
      have ht := includePass_ok K o e true hinc
      split at h
      · cases h
      · rename_i n hn
        split at h
        · cases h
        · rename_i cls hcls
          unfold selSpec selected
          simp only [hn, Option.bind, hcls, ht]
          split at h
          · rename_i hr; cases h; simp_all
          · rename_i hr
            split at h
            · rename_i hc; cases h; simp_all
            · rename_i hc
              split at h
              · rename_i hn'; cases h; simp_all
              · rename_i hn'; cases h; simp [hc, hn']; simpa using hr

theorem entries_spec (eager : Bool) (K : Known) (o : Opts) (cat : String) : ∀ (es : List Entry) (rs : List Sel),
    entries eager K o cat es = .ok rs → rs = es.filterMap (selSpec K o) := by
  intro es
  induction es with
  | nil => intro rs h; simp [entries] at h; subst h; rfl
  | cons e es ih =>
    intro rs h
    simp only [entries] at h
    split at h
    · cases h
    · rename_i r hr
      split at h
      · cases h
      · rename_i rs' hrs
        cases h
        have h1 := entry_spec eager K o cat e r hr
        have h2 := ih rs' hrs
        simp only [List.filterMap_cons, ← h1, ← h2]
        cases r <;> rfl

theorem parseCats_spec (eager : Bool) (K : Known) (o : Opts) (g : Group) : ∀ (cs : List String) (s : List (String × List Sel)),
    parseCats eager K o g cs = .ok s →
      s = cs.map (fun cat => (cat, ((g.lookup cat).getD []).filterMap (selSpec K o))) ∧ ∀ cat ∈ cs, (g.lookup cat).isSome := by
  intro cs
  induction cs with
  | nil => intro s h; simp [parseCats] at h; subst h; simp
  | cons cat cs ih =>
    intro s h
    simp only [parseCats] at h
    split at h
    · cases h
    · rename_i es hes
      split at h
      · cases h
      · rename_i sel hsel
        split at h
        · cases h
        · rename_i rest hrest
          cases h
          obtain ⟨h1, h2⟩ := ih rest hrest
          have := entries_spec eager K o cat es sel hsel
          refine ⟨by simp [hes, ← this, ← h1], ?_⟩
          intro c hc
          simp only [List.mem_cons] at hc
          rcases hc with hc | hc
          · subst hc; simp [hes]
          · exact h2 c hc

theorem parse_eq_spec (eager : Bool) (K : Known) (o : Opts) (g : Group) (s : List (String × List Sel))
    (h : parse eager K o g = .ok s) :
    s = categories.map (fun cat => (cat, ((g.lookup cat).getD []).filterMap (selSpec K o))) ∧
    ∀ cat ∈ categories, (g.lookup cat).isSome := parseCats_spec eager K o g categories s h

def Malformed (K : Known) (e : Entry) : Prop :=
  e.pass? = none ∨ (∃ n, e.pass? = some n ∧ K.passes.lookup n = none) ∨
  (∃ l b, e.incl = some l ∧ badOpt K l = some b) ∨ (∃ l b, e.excl = some l ∧ badOpt K l = some b)

theorem validate_malformed (K : Known) (cat : String) (e : Entry) (h : Malformed K e) : ∃ x, validate K cat e = .error x := by
  unfold validate
  cases hi : e.incl.bind (badOpt K) with
  | some b => exact ⟨_, rfl⟩
  | none =>
    cases hx : e.excl.bind (badOpt K) with
    | some b => exact ⟨_, rfl⟩
    | none =>
      rcases h with h | ⟨n, h1, h2⟩ | ⟨l, b, h1, h2⟩ | ⟨l, b, h1, h2⟩
      · simp [h]
      · simp [h1, h2]
      · simp [h1, Option.bind, h2] at hi
      · simp [h1, Option.bind, h2] at hx

theorem entry_eager_rejects (K : Known) (o : Opts) (cat : String) (e : Entry) (h : Malformed K e) :
    ∃ x, entry true K o cat e = .error x := by
  obtain ⟨x, hx⟩ := validate_malformed K cat e h
  exact ⟨x, by simp [entry, hx, Except.map]⟩

theorem entries_eager_rejects (K : Known) (o : Opts) (cat : String) : ∀ (es : List Entry), (∃ e ∈ es, Malformed K e) →
    ∃ x, entries true K o cat es = .error x := by
  intro es
  induction es with
  | nil => rintro ⟨e, he, _⟩; cases he
  | cons e es ih =>
    rintro ⟨e', he', hm⟩
    simp only [entries]
    cases hr : entry true K o cat e with
    | error x => exact ⟨x, rfl⟩
    | ok r =>
      simp only [List.mem_cons] at he'
      rcases he' with rfl | he'
      · obtain ⟨x, hx⟩ := entry_eager_rejects K o cat e' hm
        rw [hx] at hr; cases hr
      · obtain ⟨x, hx⟩ := ih ⟨e', he', hm⟩
        rw [hx]; exact ⟨x, rfl⟩

theorem parseCats_eager_rejects (K : Known) (o : Opts) (g : Group) : ∀ (cs : List String),
    (∃ cat ∈ cs, g.lookup cat = none ∨ ∃ es, g.lookup cat = some es ∧ ∃ e ∈ es, Malformed K e) →
    ∃ x, parseCats true K o g cs = .error x := by
  intro cs
  induction cs with
  | nil => rintro ⟨c, hc, _⟩; cases hc
  | cons cat cs ih =>
    rintro ⟨c, hc, hbad⟩
    simp only [parseCats]
    cases hl : g.lookup cat with
    | none => exact ⟨_, rfl⟩
    | some es =>
      simp only
      cases he : entries true K o cat es with
      | error x => exact ⟨x, rfl⟩
      | ok sel =>
        simp only [List.mem_cons] at hc
        rcases hc with rfl | hc
        · rcases hbad with hn | ⟨es', h1, h2⟩
          · rw [hl] at hn; cases hn
          · rw [hl] at h1; cases h1
            obtain ⟨x, hx⟩ := entries_eager_rejects K o c es h2
            rw [hx] at he; cases he
        · obtain ⟨x, hx⟩ := ih ⟨c, hc, hbad⟩
          rw [hx]; exact ⟨x, rfl⟩

theorem parse_rejects (K : Known) (o : Opts) (g : Group)
    (h : ∃ cat ∈ categories, g.lookup cat = none ∨ ∃ es, g.lookup cat = some es ∧ ∃ e ∈ es, Malformed K e) :
    ∃ x, parse true K o g = .error x := parseCats_eager_rejects K o g categories h

-- F6: an unknown pass hidden behind an include filter that fails; only the eager parser sees it
def f6K : Known := { options := ["slow", "windows"], passes := [("lines", "LinesPass")] }
def f6O : Opts := { active := [], removed := [], notC := false, ren := false }
def f6G : Group := [("first", [{ pass? := some "nosuch", incl := some ["slow"] }]), ("main", []), ("last", [])]

theorem eager_rejects_hidden_unknown_pass : parse true f6K f6O f6G = .error (.unknownPass "nosuch") := by rfl

def wellFormed (K : Known) (e : Entry) : Bool :=
  (e.incl.bind (badOpt K)).isNone && (e.excl.bind (badOpt K)).isNone && (e.pass?.bind (fun n => K.passes.lookup n)).isSome

def groupOK (K : Known) (g : Group) : Bool :=
  categories.all fun cat => match g.lookup cat with
    | none => false
    | some es => es.all (wellFormed K)

theorem includePass_total (K : Known) (o : Opts) (e : Entry) (h1 : (e.incl.bind (badOpt K)) = none)
    (h2 : (e.excl.bind (badOpt K)) = none) : ∃ b, includePass K o e = .ok b := by
  unfold includePass
  cases hi : e.incl with
  | none =>
    cases hx : e.excl with
    | none => exact ⟨true, rfl⟩
    | some l =>
      have : badOpt K l = none := by simpa [hx, Option.bind] using h2
      simp only [this]; exact ⟨_, rfl⟩
  | some l =>
    have hb : badOpt K l = none := by simpa [hi, Option.bind] using h1
    simp only [hb]
    cases meets l o.active with
    | false => exact ⟨false, rfl⟩
    | true =>
      cases hx : e.excl with
      | none => exact ⟨true, rfl⟩
      | some l' =>
        have : badOpt K l' = none := by simpa [hx, Option.bind] using h2
        simp only [this]; exact ⟨_, rfl⟩

theorem entry_total (eager : Bool) (K : Known) (o : Opts) (cat : String) (e : Entry) (h : wellFormed K e = true) :
    ∃ r, entry eager K o cat e = .ok r := by
  unfold wellFormed at h
  simp only [Bool.and_eq_true, Option.isNone_iff_eq_none, Option.isSome_iff_exists] at h
  obtain ⟨⟨h1, h2⟩, cls, h3⟩ := h
  have hv : validate K cat e = .ok cls := by
    unfold validate
    simp only [h1, h2]
    cases hp : e.pass? with
    | none => simp [hp] at h3
    | some n => simp only [hp, Option.bind] at h3; simp [h3]
  obtain ⟨b, hb⟩ := includePass_total K o e h1 h2
  unfold entry
  have hpre : (if eager = true then (validate K cat e).map (fun _ => ()) else Except.ok ()) = Except.ok () := by
    cases eager <;> simp [hv, Except.map]
  simp only [hpre, hb]
  cases b with
  | false => exact ⟨none, rfl⟩
  | true =>
    cases hp : e.pass? with
    | none => simp [hp] at h3
    | some n =>
      simp only [hp, Option.bind] at h3
      simp only [h3]
      split
      · exact ⟨_, rfl⟩
      · split
        · exact ⟨_, rfl⟩
        · split <;> exact ⟨_, rfl⟩

theorem entries_total (eager : Bool) (K : Known) (o : Opts) (cat : String) : ∀ (es : List Entry),
    es.all (wellFormed K) = true → ∃ rs, entries eager K o cat es = .ok rs := by
  intro es
  induction es with
  | nil => intro _; exact ⟨[], rfl⟩
  | cons e es ih =>
    intro h
    simp only [List.all_cons, Bool.and_eq_true] at h
    obtain ⟨r, hr⟩ := entry_total eager K o cat e h.1
    obtain ⟨rs, hrs⟩ := ih h.2
    simp only [entries, hr, hrs]
    exact ⟨_, rfl⟩

theorem parseCats_total (eager : Bool) (K : Known) (o : Opts) (g : Group) : ∀ (cs : List String),
    (cs.all fun cat => match g.lookup cat with | none => false | some es => es.all (wellFormed K)) = true →
    ∃ s, parseCats eager K o g cs = .ok s := by
  intro cs
  induction cs with
  | nil => intro _; exact ⟨[], rfl⟩
  | cons c cs ih =>
    intro h
    simp only [List.all_cons, Bool.and_eq_true] at h
    obtain ⟨s, hs⟩ := ih h.2
    cases hl : g.lookup c with
    | none => simp [hl] at h
    | some es =>
      simp only [hl] at h
      obtain ⟨rs, hrs⟩ := entries_total eager K o c es h.1
      simp only [parseCats, hl, hrs, hs]
      exact ⟨_, rfl⟩

theorem parse_total (eager : Bool) (K : Known) (o : Opts) (g : Group) (h : groupOK K g = true) :
    ∃ s, parse eager K o g = .ok s := parseCats_total eager K o g categories h

end Cvise.PG
