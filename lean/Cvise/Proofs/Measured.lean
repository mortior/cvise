import Cvise.Model.Driver
namespace Cvise.D
variable {C σ : Type}

/-- the hypotheses of C03's `drive_bound_inv` on the abstract pass interface: an invariant of the reachable cursors and a measure
    that drops on `advance` and on accept-then-`advance_on_success` -/
structure Measured (P : PassI C σ) (I : C → σ → Prop) (μ : C → σ → Nat) : Prop where
  /-- the cursors `new` creates satisfy the invariant, `advance` and accept-then-`advance_on_success` keep it -/
  newI : ∀ c s, P.new c = some s → I c s
  advI : ∀ c s s', I c s → P.advance c s = some s' → I c s'
  accI : ∀ c s c' s2 s', I c s → P.transform c s = (.ok, c', s2) → P.aos c' s2 = some s' → I c' s'
  adv : ∀ c s s', I c s → P.advance c s = some s' → μ c s' < μ c s
  acc : ∀ c s c' s2 s', I c s → P.transform c s = (.ok, c', s2) → P.aos c' s2 = some s' → μ c' s' < μ c s

end Cvise.D
