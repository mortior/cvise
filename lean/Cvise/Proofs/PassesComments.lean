import Cvise.Model.Passes
import Cvise.Proofs.RxContract
/-! C07 for `comments`: a produced candidate is the input with some matched regions deleted — a proper subsequence. -/
namespace Cvise.P
open Cvise Cvise.M Cvise.D

/-- deleting the matched regions (`re.sub(pattern, '', s)`): what is appended is a subsequence of the rest of the input -/
theorem build_nil_sublist (s : Text) : ∀ (ms : List (Nat × Nat × Caps)) (pos : Nat) (acc : Text), Spans pos ms →
    ∃ t, rxSub.build [] s ms pos acc = acc ++ t ∧ t.Sublist (s.drop pos) := by
  intro ms
  induction ms with
  | nil => intro pos acc _; exact ⟨s.drop pos, by simp [rxSub.build], List.Sublist.refl _⟩
  | cons m rest ih =>
    intro pos acc h
    obtain ⟨a, e, c⟩ := m
    obtain ⟨h1, h2, h3⟩ := h
    simp only [rxSub.build, List.append_nil]
    obtain ⟨t, ht, hsub⟩ := ih e (acc ++ (s.drop pos).take (a - pos)) h3
    refine ⟨(s.drop pos).take (a - pos) ++ t, by rw [ht, List.append_assoc], ?_⟩
    -- s.drop pos = take (a - pos) ++ drop (a - pos), and `t` is a subsequence of s.drop e, a suffix of that drop
    have e1 : s.drop pos = (s.drop pos).take (a - pos) ++ (s.drop pos).drop (a - pos) := (List.take_append_drop _ _).symm
    have e2 : (s.drop pos).drop (a - pos) = s.drop a := by rw [List.drop_drop]; congr 1; omega
    have e3 : s.drop e = (s.drop a).drop (e - a) := by rw [List.drop_drop]; congr 1; omega
    conv => rhs; rw [e1, e2]
    apply List.Sublist.append_left
    exact List.Sublist.trans hsub (by rw [e3]; exact List.drop_sublist _ _)

theorem rxSub_nil_sublist (id : Nat) (s : Text) : (rxSub id [] s).Sublist s := by
  unfold rxSub
  obtain ⟨t, ht, hsub⟩ := build_nil_sublist s _ 0 [] (rxFindAll_spec (rxTbl id) (toArr s) (s.length + 2) 0).2.1
  simp only [ht, List.nil_append]
  simpa using hsub

theorem comments_subs_delete : Gen.commentsSubs.all (fun x => x.2 == "") = true := by decide

theorem commentsLoop_spec (s : Text) : ∀ (fuel st : Nat) (pr : PR) (out : Text) (st' : Nat),
    commentsLoop s fuel st = (pr, out, st') →
    pr = .stop ∨ (pr = .ok ∧ st ≤ st' ∧ ∃ id repl, Gen.commentsSubs[st']? = some (id, repl) ∧ out = rxSub id repl.toList s ∧ out ≠ s) := by
  intro fuel
  induction fuel with
  | zero => intro st pr out st' h; cases h; exact Or.inl rfl
  | succ f ih =>
    intro st pr out st' h
    simp only [commentsLoop] at h
    split at h
    · cases h; exact Or.inl rfl
    · rename_i id repl hget
      split at h
      · rename_i hne
        cases h
        exact Or.inr ⟨rfl, Nat.le_refl _, id, repl, hget, rfl, hne⟩
      · rcases ih _ _ _ _ h with h' | ⟨h1, h2, h3⟩
        · exact Or.inl h'
        · exact Or.inr ⟨h1, by omega, h3⟩

theorem comments_candidate (s : Text) : ∀ (fuel st : Nat) (out : Text) (st' : Nat),
    commentsLoop s fuel st = (.ok, out, st') → out.Sublist s ∧ out ≠ s := by
  intro fuel st out st' h
  rcases commentsLoop_spec s fuel st .ok out st' h with h | ⟨_, _, id, repl, hget, rfl, hne⟩
  · cases h
  · have hr : repl = "" := by simpa using List.all_eq_true.mp comments_subs_delete _ (List.mem_of_getElem? hget)
    refine ⟨?_, hne⟩
    rw [hr]
    exact rxSub_nil_sublist id s

end Cvise.P
