import Cvise.Proofs.DriverAccept
/-! The bookkeeping of a round as a transition system.  `processDone`, `wfs` and `roundLoop` move the side state only by
    the steps below, so a property of the bookkeeping (statistics, report directories, timeouts, what is logged) is
    proved by checking it against these steps, not by another induction over the three functions. -/
namespace Cvise.D
variable {C σ : Type} [DecidableEq C]

def RRes.side {α : Type} : RRes C α → Side C
  | .inl (_, g) => g
  | .inr (_, g) => g

/-- a round seen from its bookkeeping; `tc`: timeouts counted by the round -/
structure RoundSt (C : Type) where
  flight : Nat
  side : Side C
  tc : Nat
  quit : Bool

/-- what the scan and the final wait do with one future of the in-flight list -/
inductive ScanStep (cfg : Cfg) : RoundSt C → RoundSt C → Prop
  /-- cancelled, or found timed out by the final wait -/
  | drop (n g tc q) : ScanStep cfg ⟨n + 1, g, tc, q⟩ ⟨n, g, tc, q⟩
  /-- accepted: the future stays in the list, the rest of the scan cancels -/
  | win (n g tc) : ScanStep cfg ⟨n, g, tc, false⟩ ⟨n, g, tc, true⟩
  /-- judged by `check`: any move `Judged` allows; a scan that is quitting goes on quitting -/
  | judge (n g g' tc q q') : Judged cfg g g' → (q = true → q' = true) → ScanStep cfg ⟨n + 1, g, tc, q⟩ ⟨n, g', tc, q'⟩
  /-- found timed out by the scan: counted, possibly saved, and the round quits at the limit -/
  | tick (n g g' tc) : Judged cfg { g with timeouts := g.timeouts + 1 } g' →
      ScanStep cfg ⟨n + 1, g, tc, false⟩ ⟨n, g', tc + 1, decide (tc + 1 ≥ cfg.maxTimeouts)⟩

inductive RoundStep (cfg : Cfg) (pkey : Nat) : RoundSt C → RoundSt C → Prop
  | scan {a b} : ScanStep cfg a b → RoundStep cfg pkey a b
  | sched (n g tc o) : RoundStep cfg pkey ⟨n, g, tc, false⟩
      ⟨n + 1, { g with executed := bump g.executed g.curPass, log := g.log ++ [.sched pkey o] }, tc, false⟩

/-- what `processDone_inv` says of the scan's result; `m`: futures in front of the scanned list that are kept -/
def ScanPost (J : RoundSt C → Prop) (m : Nat) : RRes C (List Nat × RS × Bool) → Prop
  | .inl ((k, rs', q'), g') => J ⟨k.length + m, g', rs'.tc, q'⟩
  | .inr (_, g') => ∃ n tc q', J ⟨n, g', tc, q'⟩

section scan
variable {cfg : Cfg} (J : RoundSt C → Prop) (hJ : ∀ a b, ScanStep cfg a b → J a → J b)
include hJ

theorem processDone_inv (size : C → Nat) (cur : C) (env : Nat → EnvRes C σ) (done : Nat → Bool) :
    ∀ (L : List Nat) (m : Nat) (g : Side C) (rs : RS) (q : Bool), J ⟨L.length + m, g, rs.tc, q⟩ →
      ScanPost J m (processDone cfg size cur env done L g rs q) := by
  intro L
  induction L with
  | nil => intro m g rs q h; exact h
  | cons i L ih =>
    intro m g rs q h
    simp only [List.length_cons] at h
    have h' : J ⟨L.length + m + 1, g, rs.tc, q⟩ := by rwa [Nat.add_right_comm] at h
    -- the head future stays in the list
    have keep : ∀ g1 rs1 q1, J ⟨L.length + 1 + m, g1, rs1.tc, q1⟩ →
        ScanPost J m (match processDone cfg size cur env done L g1 rs1 q1 with
          | .inl ((k, rs, q), g) => .inl ((i :: k, rs, q), g)
          | .inr e => .inr e) := by
      intro g1 rs1 q1 h1
      have := ih (m + 1) g1 rs1 q1 (by rwa [Nat.add_right_comm] at h1)
      generalize processDone cfg size cur env done L g1 rs1 q1 = r at this ⊢
      rcases r with ⟨⟨k, rs2, q2⟩, g2⟩ | e
      · show J ⟨k.length + 1 + m, _, _, _⟩
        rw [Nat.add_right_comm]; exact this
      · exact this
    simp only [processDone]
    split
    · exact ih _ _ _ _ (hJ _ _ (.drop ..) h')
    · rename_i hq
      have hq : q = false := by simpa using hq
      subst hq
      split
      · split
        · exact ih _ _ _ _ (hJ _ _ (.tick _ _ _ _ ((Judged.refl cfg _).saveExtra rfl)) h')
        · exact ⟨_, _, _, h⟩
        · rcases hc : check cfg size cur (env i) g rs.gu with ⟨o, g1, gu1⟩
          have hj := check_judged hc
          cases o with
          | accept =>
            obtain ⟨_, rfl, _⟩ := check_accept cfg size cur (env i) g g1 rs.gu gu1 hc
            exact keep _ _ _ (hJ _ _ (.win ..) h)
          | ignore => exact ih _ _ _ _ (hJ _ _ (.judge _ _ _ _ false _ hj nofun) h')
          | quit => exact ih _ _ _ _ (hJ _ _ (.judge _ _ _ _ false _ hj nofun) h')
          | raise e => exact ⟨_, _, false, hJ _ _ (.judge _ _ _ _ false _ hj nofun) h'⟩
      · exact keep _ _ _ h

theorem wfs_inv (size : C → Nat) (cur : C) (env : Nat → EnvRes C σ) :
    ∀ (L : List Nat) (g : Side C) (rs : RS) (q : Bool), J ⟨L.length, g, rs.tc, q⟩ →
      ∃ n q', J ⟨n, RRes.side (wfs cfg size cur env L g rs), rs.tc, q'⟩ := by
  intro L
  induction L with
  | nil => intro g rs q h; exact ⟨_, _, h⟩
  | cons i L ih =>
    intro g rs q h
    simp only [wfs]
    split
    · exact ih _ _ _ (hJ _ _ (.drop ..) h)
    · exact ⟨_, _, h⟩
    · rcases hc : check cfg size cur (env i) g rs.gu with ⟨o, g1, gu1⟩
      have hj := check_judged hc
      have h1 : J ⟨L.length, g1, rs.tc, q⟩ := hJ _ _ (.judge _ _ _ _ _ _ hj id) h
      cases o with
      | accept => exact ⟨_, _, h1⟩
      | raise e => exact ⟨_, _, h1⟩
      | ignore => exact ih _ { rs with gu := gu1 } _ h1
      | quit => exact ih _ { rs with gu := gu1 } _ h1

end scan

theorem roundLoop_inv {cfg : Cfg} {pkey : Nat} (J : RoundSt C → Prop) (hJ : ∀ a b, RoundStep cfg pkey a b → J a → J b)
    (size : C → Nat) (cur : C) (env : Nat → EnvRes C σ) (more : Nat → Bool) (done : Nat → Nat → Bool) :
    ∀ (fuel t : Nat) (futs : List Nat) (g : Side C) (rs : RS), J ⟨futs.length, g, rs.tc, false⟩ →
      ∃ n tc q, J ⟨n, RRes.side (roundLoop cfg size pkey cur env more done fuel t futs g rs), tc, q⟩ := by
  have hS : ∀ a b, ScanStep cfg a b → J a → J b := fun a b s => hJ a b (.scan s)
  intro fuel
  induction fuel with
  | zero => intro t futs g rs h; exact ⟨_, _, _, h⟩
  | succ f ih =>
    intro t futs g rs h
    simp only [roundLoop]
    have pd := processDone_inv J hS size cur env (done t) futs 0 g rs false h
    generalize processDone cfg size cur env (done t) futs g rs false = r at pd ⊢
    rcases r with ⟨⟨k, rs1, q⟩, g1⟩ | ⟨e, g1⟩
    · have wf : ∀ L g2, J ⟨L.length, g2, rs1.tc, q⟩ → ∃ n tc q', J ⟨n, RRes.side (wfs cfg size cur env L g2 rs1), tc, q'⟩ :=
        fun L g2 h2 => let ⟨n, q', h3⟩ := wfs_inv J hS size cur env L g2 rs1 q h2; ⟨n, _, q', h3⟩
      simp only
      split
      · exact wf _ _ pd
      · rename_i hq
        have hq : q = false := by simpa using hq
        subst hq
        have h2 := hJ _ _ (.sched _ _ _ (t + 1)) pd
        have hl : (k ++ [t]).length = k.length + 0 + 1 := by simp
        split
        · exact ih _ _ _ _ (by rw [hl]; exact h2)
        · exact wf _ _ (by rw [hl]; exact h2)
    · exact pd

theorem roundLoop_side_inv {cfg : Cfg} {pkey : Nat} (I : Side C → Prop)
    (hj : ∀ g g', Judged cfg g g' → I g → I g')
    (ht : ∀ g, I g → I { g with timeouts := g.timeouts + 1 })
    (hs : ∀ g o, I g → I { g with executed := bump g.executed g.curPass, log := g.log ++ [.sched pkey o] })
    (size : C → Nat) (cur : C) (env : Nat → EnvRes C σ) (more : Nat → Bool) (done : Nat → Nat → Bool)
    (fuel t : Nat) (futs : List Nat) (g : Side C) (rs : RS) (h : I g) :
    I (RRes.side (roundLoop cfg size pkey cur env more done fuel t futs g rs)) := by
  obtain ⟨_, _, _, h'⟩ := roundLoop_inv (fun s => I s.side) (fun a b s ha => by
    cases s with
    | sched => exact hs _ _ ha
    | scan s =>
      cases s with
      | drop => exact ha
      | win => exact ha
      | judge _ _ _ _ _ _ hj' => exact hj _ _ hj' ha
      | tick _ _ _ _ hj' => exact hj _ _ hj' (ht _ ha)) size cur env more done fuel t futs g rs h
  exact h'

end Cvise.D
