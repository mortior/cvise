import Cvise.Proofs.DriverLift
import Cvise.Proofs.DriverGate
/-! C01: the files are always the original or a joint content on which an invocation of the test exited 0 -/
namespace Cvise.D
variable {C σ : Type} [DecidableEq C] [Inhabited σ] [Inhabited C]

/-- how the invocation `(rid, ord)` of the test on `joint` exits: a scripted fault, else the deterministic test -/
def invExit (W : World C) (joint : List C) (rid ord : Nat) : Exit :=
  match W.fault rid ord with
  | some f => f
  | none => W.test joint

/-- the property of C01 for one directory state -/
def SafeDisk (W : World C) (orig d : List C) : Prop :=
  d = orig ∨ (∃ rid ord, invExit W d rid ord = .code 0) ∨ W.test d = .code 0      -- last: a sanity check on exactly `d`

theorem envOf_exit (W : World C) (P : PassI C σ) (disk : List C) (k : Nat) (cur : C) (s : σ) (rid i : Nat)
    (h : (envOf W P disk k cur s rid i).pr = .ok) (h0 : (envOf W P disk k cur s rid i).exit = some (.code 0)) :
    invExit W (disk.set k (envOf W P disk k cur s rid i).cand) rid (i+1) = .code 0 := by
  unfold envOf at h h0 ⊢
  unfold invExit
  cases hn : nthState P cur s i with
  | none => simp [hn] at h
  | some si =>
    simp only [hn] at h h0 ⊢
    cases hf : W.fault rid (i+1) with
    | none => simp only [hf] at h0 ⊢; simp only [h, if_true] at h0; exact Option.some.inj h0
    | some f =>
      cases f <;> simp_all

def DiskRel (k : Nat) (a b : List C) : Prop := b = a ∨ ∃ c, b = a.set k c

theorem DiskRel.trans {k : Nat} {a b c : List C} (h1 : DiskRel k a b) (h2 : DiskRel k b c) : DiskRel k a c := by
  rcases h1 with rfl | ⟨x, rfl⟩
  · exact h2
  · rcases h2 with rfl | ⟨y, rfl⟩
    · exact Or.inr ⟨x, rfl⟩
    · exact Or.inr ⟨y, by simp [List.set_set]⟩

omit [DecidableEq C] [Inhabited C] in
theorem DiskRel.length {k : Nat} {a b : List C} (h : DiskRel k a b) : b.length = a.length := by
  rcases h with rfl | ⟨c, rfl⟩ <;> simp

theorem fileLoop_safe (cfg : Cfg) (W : World C) (dn : Sched) (P : PassI C σ) (orig : List C) (k startSize : Nat) :
    ∀ (fuel rid : Nat) (s : σ) (succ : Nat) (x : St C), SafeDisk W orig x.disk →
      let y := LRes.st (fileLoop cfg W dn P k startSize fuel rid s succ x)
      SafeDisk W orig y.disk ∧ y.cache = x.cache ∧ DiskRel k x.disk y.disk := by
  intro fuel
  induction fuel with
  | zero => intro rid s succ x hx; exact ⟨hx, rfl, Or.inl rfl⟩
  | succ f ih =>
    intro rid s succ x hx
    let Q (r : LRes C) : Prop :=
      SafeDisk W orig (LRes.st r).disk ∧ (LRes.st r).cache = x.cache ∧ DiskRel k x.disk (LRes.st r).disk
    rw [fileLoop_succ]
    split
    · exact ⟨hx, rfl, Or.inl rfl⟩
    · split
      · exact ⟨hx, rfl, Or.inl rfl⟩
      · exact ⟨hx, rfl, Or.inl rfl⟩
      · rename_i i g hr
        -- the winner was accepted, so its test ran on exactly the joint contents that are committed and exited 0
        have hiff := (isAccept_iff cfg W.size _ _).mp (roundLoop_sound cfg W.size P.key _ _ _ _ _ _ _ _ _ _ _ hr)
        have hsafe : SafeDisk W orig (x.disk.set k (envOf W P x.disk k (x.disk.getD k default) s rid i).cand) :=
          Or.inr (Or.inl ⟨rid, i + 1, envOf_exit W P x.disk k _ s rid i hiff.1 hiff.2.1⟩)
        refine afterCommit_elim (Q := Q) ⟨hsafe, rfl, Or.inr ⟨_, rfl⟩⟩ ⟨hsafe, rfl, Or.inr ⟨_, rfl⟩⟩ (fun s' _ _ => ?_)
        obtain ⟨h1, h2, h3⟩ := ih (rid + 1) s' (succ + 1) (commitWinner P x k _ g) hsafe
        exact ⟨h1, h2, DiskRel.trans (Or.inr ⟨_, rfl⟩) h3⟩

theorem diskRel_set_getD {k : Nat} {a b : List C} (d : C) (h : DiskRel k a b) : a.set k (b.getD k d) = b := by
  rcases h with rfl | ⟨c, rfl⟩
  · by_cases hk : k < b.length
    · simp [List.getD, hk]
    · rw [List.set_eq_of_length_le (by omega)]
  · by_cases hk : k < a.length
    · simp [List.getD, hk]
    · rw [List.set_eq_of_length_le (by omega), List.set_eq_of_length_le (by omega)]

theorem mem_of_lookup {α β : Type} [BEq α] [LawfulBEq α] (l : List (α × β)) (a : α) (b : β)
    (h : l.lookup a = some b) : (a, b) ∈ l := by
  obtain ⟨l₁, l₂, rfl, _⟩ := List.lookup_eq_some_iff.mp h
  simp

/-- when is the replay table sound: it is off, or it is keyed on the joint contents -/
def KeyOK (cfg : Cfg) : Prop := cfg.cacheOn = false ∨ cfg.jointKey = true

/-- the C01 invariant of a driver state -/
structure Inv (cfg : Cfg) (W : World C) (orig : List C) (x : St C) : Prop where
  disk : SafeDisk W orig x.disk
  cache : cfg.cacheOn = true → ∀ key J k after, ((key, J, k), after) ∈ x.cache → SafeDisk W orig (J.set k after)

omit [DecidableEq C] [Inhabited C] in
theorem Inv.init (cfg : Cfg) (W : World C) (x : St C) (hc : x.cache = []) : Inv cfg W x.disk x :=
  ⟨Or.inl rfl, by intro _ key J k after hm; rw [hc] at hm; cases hm⟩

theorem newLoop_safe (cfg : Cfg) (W : World C) (dn : Sched) (P : PassI C σ) (orig : List C) (fuel k rid : Nat) (x : St C)
    (before : C) (hx : SafeDisk W orig x.disk) :
    let y := LRes.st (newLoop cfg W dn P k fuel rid x before)
    SafeDisk W orig y.disk ∧ y.cache = x.cache ∧ DiskRel k x.disk y.disk := by
  unfold newLoop
  have hf := fmtStep_frame W P x k before
  have hd := fmtStep_disk W P x k before
  have hsafe : SafeDisk W orig (fmtStep W P x k before).1.disk := by
    rcases hd with h | ⟨c, h, ht⟩
    · rw [h]; exact hx
    · rw [h]; exact Or.inr (Or.inr ht)
  have hrel : DiskRel k x.disk (fmtStep W P x k before).1.disk := by
    rcases hd with h | ⟨c, h, _⟩
    · exact Or.inl h
    · exact Or.inr ⟨c, h⟩
  split
  · exact ⟨hsafe, hf.2.1, hrel⟩
  · split
    · exact ⟨hsafe, hf.2.1, hrel⟩
    · rename_i s _
      have := fileLoop_safe cfg W dn P orig k (W.size before) fuel rid s 0 (fmtStep W P x k before).1 hsafe
      exact ⟨this.1, by rw [this.2.1, hf.2.1], DiskRel.trans hrel this.2.2⟩

theorem fileStep_inv (cfg : Cfg) (hk : KeyOK cfg) (W : World C) (dn : Sched) (P : PassI C σ) (orig : List C) (fuel : Nat)
    (acc : LRes C) (k : Nat) (h : Inv cfg W orig (LRes.st acc)) :
    Inv cfg W orig (LRes.st (fileStep cfg W dn P fuel acc k)) := by
  unfold fileStep
  cases acc with
  | inr e => exact h
  | inl xr =>
    obtain ⟨x, rid⟩ := xr
    simp only
    -- `by_cases` + `rw`, not `split`: `split` abstracts the whole rest of `fileStep` under the size test, which is dear
    by_cases hz : W.size (x.disk.getD k default) = 0
    · rw [if_pos hz]; exact h
    · rw [if_neg hz]
      have hy := newLoop_safe cfg W dn P orig fuel k rid x (x.disk.getD k default) h.disk
      generalize newLoop cfg W dn P k fuel rid x (x.disk.getD k default) = r at hy ⊢
      by_cases hc : cfg.cacheOn = true
      · have hj : cfg.jointKey = true := by
          rcases hk with h1 | h1
          · rw [hc] at h1; cases h1
          · exact h1
        simp only [hc, hj, if_true]
        split
        · rename_i after hl
          exact ⟨h.cache hc _ _ _ _ (mem_of_lookup _ _ _ hl), h.cache⟩
        · cases r with
          | inr e =>
            exact ⟨hy.1, by rw [hy.2.1]; exact h.cache⟩
          | inl yr =>
            simp only [LRes.st] at hy ⊢
            refine ⟨hy.1, ?_⟩
            intro _ key J k' after hm
            simp only [List.mem_cons] at hm
            rcases hm with hm | hm
            · cases hm
              rw [diskRel_set_getD default hy.2.2]; exact hy.1
            · rw [hy.2.1] at hm; exact h.cache hc _ _ _ _ hm
      · simp only [hc]
        cases r <;> exact ⟨hy.1, fun hcc => (hc hcc).elim⟩


/-! ### the joint key is needed

With the replay table keyed on the bytes of the one file only (`jointKey = false`: the code before the repair of F1),
C01 is false for two test cases: a concrete witness (finding F1). -/

def wipe : PassI Nat Nat where
  key := 0
  maxT := none
  new := fun _ => some 0
  advance := fun _ _ => none
  aos := fun _ _ => none
  transform := fun _ s => (.ok, 1, s)        -- content 1 is the empty file

def wWorld : World Nat where
  size := fun c => if c = 0 then 8 else 0    -- content 0 = "foo\nbar\n"
  test := fun j => if j.contains 0 then .code 0 else .code 1   -- interesting iff some file still holds content 0
  fault := fun _ _ => none

def wDone : Sched := fun _ _ _ => true

def wCfg (joint : Bool) : Cfg := { cacheOn := true, jointKey := joint }

theorem witness_disk_old : (LRes.st (runPass (wCfg false) wWorld wDone wipe [0, 1] 10 0 { disk := [0, 0] })).disk = [1, 1] := by
  decide

theorem witness_disk_joint : (LRes.st (runPass (wCfg true) wWorld wDone wipe [0, 1] 10 0 { disk := [0, 0] })).disk = [1, 0] := by
  decide

end Cvise.D
