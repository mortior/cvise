import Cvise.Model.Effects
namespace Cvise.Eff

/-- the invariant linking the concrete state and the analysis: every variable that points to the parameter object is
    in the may-alias set, fresh locations are above 0, and the parameter object is written only if the flag says so -/
structure Rel (s : State) (a : List Nat) (w : Bool) : Prop where
  alias : ∀ v, s.env v = 0 → v ∈ a
  next : 0 < s.next
  wr : 0 ∈ s.written → w = true

theorem analyse_sound : ∀ (p : List Stmt) (s : State) (a : List Nat) (w : Bool), Rel s a w →
    analyse p a w = false → 0 ∉ (exec p s).written := by
  intro p
  induction p with
  | nil =>
    intro s a w hr h
    simp only [analyse] at h
    intro hw; have := hr.wr hw; rw [h] at this; cases this
  | cons st rest ih =>
    intro s a w hr h
    cases st with
    | copyOf x _ | fresh x =>
      -- both bind `x` to a new location: it leaves the may-alias set, nothing else changes
      apply ih (step s _) _ w _ h
      refine ⟨?_, by simp [step], by simpa [step] using hr.wr⟩
      intro v hv
      simp only [step] at hv
      by_cases hvx : v = x
      · simp only [hvx, if_true] at hv; have := hr.next; omega
      · simp only [hvx, if_false] at hv
        simp only [List.mem_filter, decide_eq_true_eq]
        exact ⟨hr.alias v hv, hvx⟩
    | alias x y =>
      apply ih (step s (.alias x y)) _ w _ h
      refine ⟨?_, by simpa [step] using hr.next, by simpa [step] using hr.wr⟩
      intro v hv
      simp only [step] at hv
      by_cases hvx : v = x
      · simp only [hvx, if_true] at hv
        have hy := hr.alias y hv
        have : a.contains y = true := by simpa using hy
        rw [if_pos this, hvx]; exact List.mem_cons_self
      · simp only [hvx, if_false] at hv
        have hva := hr.alias v hv
        split
        · exact List.mem_cons_of_mem _ hva
        · simp only [List.mem_filter, decide_eq_true_eq]; exact ⟨hva, hvx⟩
    | write x =>
      apply ih (step s (.write x)) a (w || a.contains x) _ h
      refine ⟨by simpa [step] using hr.alias, by simpa [step] using hr.next, ?_⟩
      intro hw
      simp only [step, List.mem_cons] at hw
      rcases hw with hw | hw
      · have := hr.alias x hw.symm
        simp [this]
      · simp [hr.wr hw]

end Cvise.Eff
