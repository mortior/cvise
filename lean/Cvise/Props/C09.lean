import Cvise.Proofs.DriverTotal
import Cvise.Gen.Const
import Cvise.Proofs.DriverCounters
/-!
# C09 — failing, hanging or crashing tests and tools are never accepted (decision logic)
-/
namespace Cvise.C09
open Cvise Cvise.D
variable {C σ : Type} [DecidableEq C]

/-- ACCEPT iff the helper said OK, the test exited 0, the file changed and the step is within `--max-improvement`.
    In particular: a non-zero exit, a signal (negative code), a timeout, a swallowed exception (`broken`) or a helper
    result other than OK can never be accepted. -/
theorem accept_requires_ok0 (cfg : Cfg) (size : C → Nat) (cur : C) (e : EnvRes C σ) (g : Side C) (gu : Bool) :
    (check cfg size cur e g gu).1 = .accept ↔
      e.pr = .ok ∧ e.exit = some (.code 0) ∧ e.cand ≠ cur ∧ (∀ m, cfg.maxImp = some m → (size cur : Int) - size e.cand ≤ m) := by
  rw [← isAccept_iff]
  exact ⟨isAccept_of_check cfg size cur e g gu, fun h => by rw [check_of_isAccept cfg size cur e g gu h]⟩

/-- accepting has no side effect (which is why the winner may be judged twice) -/
theorem accept_pure (cfg : Cfg) (size : C → Nat) (cur : C) (e : EnvRes C σ) (g g' : Side C) (gu gu' : Bool)
    (h : check cfg size cur e g gu = (.accept, g', gu')) : g' = g ∧ gu' = gu :=
  (check_accept cfg size cur e g g' gu gu' h).2

/-- for every schedule, every fault assignment, every fuel: what a round returns as the winner was accepted -/
theorem loop_sound (cfg : Cfg) (size : C → Nat) (pkey : Nat) (cur : C) (env : Nat → EnvRes C σ) (more : Nat → Bool)
    (done : Nat → Nat → Bool) (fuel t : Nat) (futs : List Nat) (g g' : Side C) (rs : RS) (i : Nat)
    (h : roundLoop cfg size pkey cur env more done fuel t futs g rs = .inl (some i, g')) :
    (env i).pr = .ok ∧ (env i).exit = some (.code 0) :=
  let h' := (isAccept_iff cfg size cur (env i)).mp (roundLoop_sound cfg size pkey cur env more done fuel t futs g g' rs i h)
  ⟨h'.1, h'.2.1⟩

/-- a judgement creates at most one bug-report directory, and none once `MAX_CRASH_DIRS + 1` exist -/
theorem bug_dirs_step (cfg : Cfg) (size : C → Nat) (cur : C) (e : EnvRes C σ) (g g' : Side C) (gu gu' : Bool) (o : Outcome)
    (h : check cfg size cur e g gu = (o, g', gu')) :
    g.bug ≤ g'.bug ∧ (g'.bug = g.bug ∨ (g'.bug = g.bug + 1 ∧ g.bug ≤ cfg.maxCrash)) := by
  have := (check_judged h).bug
  exact ⟨by omega, this⟩

theorem extra_dirs_step (cfg : Cfg) (size : C → Nat) (cur : C) (e : EnvRes C σ) (g g' : Side C) (gu gu' : Bool) (o : Outcome)
    (h : check cfg size cur e g gu = (o, g', gu')) :
    g.extra ≤ g'.extra ∧ (g'.extra = g.extra ∨ (g'.extra = g.extra + 1 ∧ g.extra ≤ cfg.maxExtra)) := by
  have := (check_judged h).extra
  exact ⟨by omega, this⟩

/-- **a stream of timeouts ends the current round after a fixed number of them**: `Side.timeouts` counts every candidate
    the scan finds timed out (ghost counter).  Whatever the schedule, the per-candidate faults, the number of candidates
    and the way the round ends (winner, no winner, error), a round counts at most `MAX_TIMEOUTS` of them. -/
theorem timeouts_end_the_round (cfg : Cfg) (hM : 1 ≤ cfg.maxTimeouts) (size : C → Nat) (pkey : Nat) (cur : C)
    (env : Nat → EnvRes C σ) (more : Nat → Bool) (done : Nat → Nat → Bool) (fuel : Nat) (g : Side C) :
    (RRes.side (roundLoop cfg size pkey cur env more done fuel 0 [] g {})).timeouts ≤ g.timeouts + cfg.maxTimeouts := by
  have := roundLoop_timeouts cfg size pkey cur env more done fuel 0 [] g {} (by show (0 : Nat) < cfg.maxTimeouts; omega)
  simpa using this

/-- **saved timeout / bug report directories stay within their documented limits**, over a whole reduction: whatever the
    passes, the test, the faults, the schedule and the outcome (normal or error), at most `MAX_CRASH_DIRS + 1`
    `cvise_bug_*` and `MAX_EXTRA_DIRS + 1` `cvise_extra_*` directories exist at the end (indices `0 … MAX`) -/
theorem report_dirs_within_limits [Inhabited σ] [Inhabited C] (cfg : Cfg) (W : World C) (dn : Sched)
    (orderOf : List C → List Nat) (fuel : Nat) (first main last : List (PassI C σ)) (x : St C)
    (h : x.side.bug ≤ cfg.maxCrash + 1 ∧ x.side.extra ≤ cfg.maxExtra + 1) :
    (LRes.st' (reduce cfg W dn orderOf fuel first main last x)).side.bug ≤ cfg.maxCrash + 1 ∧
    (LRes.st' (reduce cfg W dn orderOf fuel first main last x)).side.extra ≤ cfg.maxExtra + 1 :=
  reduce_lift cfg W dn orderOf fuel (fun r => DirOK cfg (LRes.st r).side)
    (fun P order fuel rid y h => runPass_dirs cfg W dn P order fuel rid y h) first main last x h

/-- the shipped limit meets the hypothesis -/
theorem shipped_max_timeouts : 1 ≤ Gen.MAX_TIMEOUTS := by decide

/-- the bound is attained: with every candidate timing out and a limit of 2, a round over five candidates counts
    exactly 2 timeouts and schedules no more than the in-flight window allows -/
example : (RRes.side (roundLoop ({ maxTimeouts := 2 } : Cfg) (fun (c : Nat) => c) 0 5
    (fun i => ({ order := i + 1, pr := .ok, cand := 3, st := (), exit := some .timeout } : EnvRes Nat Unit))
    (fun t => decide (t < 5)) (fun _ _ => true) 100 0 [] {} {})).timeouts = 2 := by decide +kernel

-- non-vacuity: an env that is accepted and one with a signal exit that is not
example : (check ({} : Cfg) (fun (c : Nat) => c) 5 ({ order := 1, pr := .ok, cand := 3, st := (), exit := some (.code 0) } : EnvRes Nat Unit) {} false).1 = .accept := by decide
example : (check ({} : Cfg) (fun (c : Nat) => c) 5 ({ order := 1, pr := .ok, cand := 3, st := (), exit := some (.code (-9)) } : EnvRes Nat Unit) {} false).1 = .ignore := by decide

/-- **failing, hanging or crashing candidates never wedge a pass run**: `W.fault` assigns any outcome (non-zero exit,
    signal, timeout, foreign exception, swallowed exception) to any candidate of any round, `dn` is any completion order —
    for a pass with a measure (`D.Measured`) the rounds on a file still end, and the result does not depend on the
    fuel of the executable model.  Whole reductions: `C03.reduction_terminates`. -/
theorem pass_run_completes_under_faults [Inhabited σ] [Inhabited C] (cfg : Cfg) (size : C → Nat) (test : List C → Exit)
    (fault : Nat → Nat → Option Exit) (dn : Sched) (P : PassI C σ) (I : C → σ → Prop) (μ : C → σ → Nat) (hμ : Measured P I μ)
    (k startSize j fuel rid : Nat) (s : σ) (succ : Nat) (x : St C) (hk : k < x.disk.length) (hI : I (x.disk.getD k default) s)
    (h1 : μ (x.disk.getD k default) s < fuel) (h2 : μ (x.disk.getD k default) s < cfg.giveup + 1000) :
    fileLoop cfg ⟨size, test, fault⟩ dn P k startSize fuel rid s succ x =
    fileLoop cfg ⟨size, test, fault⟩ dn P k startSize (fuel + j) rid s succ x :=
  fileLoop_total cfg ⟨size, test, fault⟩ dn P I μ hμ k startSize j fuel rid s succ x hk hI h1 h2

end Cvise.C09
