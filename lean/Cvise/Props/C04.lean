import Cvise.Model.World
import Cvise.Proofs.WorldFS
import Cvise.Proofs.DriverLift
import Cvise.Gen.World
/-!
# C04 — originals are preserved (`backup_test_cases` over a file map)
-/
namespace Cvise.C04
open Cvise Cvise.W

/-- whatever was there before the backup is there afterwards, unchanged: an existing `X.orig` is never overwritten and no
    other file is touched -/
theorem backup_preserves (tcs : List String) : ∀ (fs : FS) (p : String) (b : Bytes),
    lookupFS fs p = some b → lookupFS (backup fs tcs) p = some b := by
  induction tcs with
  | nil => intro fs p b h; exact h
  | cons f rest ih =>
    intro fs p b h
    simp only [backup]
    split
    · exact ih _ p b (by simp [lookupFS_append, h])
    · exact ih fs p b h

/-- after the backup every test case `X` that exists has an `X.orig`; if there was none it holds exactly the bytes `X` had -/
theorem backup_creates (tcs : List String) : ∀ (fs : FS) (f : String) (b : Bytes), f ∈ tcs →
    lookupFS fs f = some b → lookupFS fs (f ++ ".orig") = none →
    lookupFS (backup fs tcs) (f ++ ".orig") = some b := by
  induction tcs with
  | nil => intro fs f b hf; cases hf
  | cons g rest ih =>
    intro fs f b hf hb hn
    simp only [backup]
    by_cases hfg : f = g
    · subst hfg
      simp only [hn, hb]
      exact backup_preserves rest _ _ b (by simp [lookupFS_append, hn])
    · have hfr : f ∈ rest := (List.mem_cons.mp hf).resolve_left hfg
      split
      · -- `g`'s backup is another path than `f`'s: appending the same suffix is injective
        exact ih _ f b hfr (by simp [lookupFS_append, hb]) (by simp [lookupFS_append, hn, hfg])
      · exact ih fs f b hfr hb hn

/-- the model's guard (`lookupFS fs (f ++ ".orig") = none`) is the code's: the backup is written only if `X.orig` does not exist
    (read off `backup_test_cases` on every run; an "exists but empty" exception, say, makes this false) -/
theorem shipped_backup_guard : Gen.backupOnlyIfMissing = true := by decide

/-- whenever a pass completes the modes of the test cases are the original ones, whatever happened to them during the
    pass (`Gen.restoreModeAtPassEnd` is read off `run_pass` on every run) -/
theorem modes_back_when_pass_completes (orig : List Nat) (steps : List (List Nat → List Nat)) :
    passModes Gen.restoreModeAtPassEnd orig steps = orig := rfl

/-- without the call at the end a pass that resets the mode and accepts nothing leaves the file at 0600 -/
theorem modes_lost_without_restore : passModes false [0o640] [fun _ => [0o600]] = [0o600] := by decide

/-! `W.afterReduceD names … tidy fs log disk` is the working directory after a reduction whose ghost log is `log` and whose
test cases end as `disk`: backups first (unless `--tidy`), then one action per logged event — a commit or a replay writes
the named test case, a bug / extra report creates an entry under a report-directory name.  The theorems hold for **every** event list, hence for the log of every
run of the driver model (`frame_for_every_run`), whatever the passes, the test, the schedule and the limits. -/

/-- **only the named test cases are touched**: a path that is not a test case, not the `.orig` of one and not under a
    report-directory name holds after the reduction what it held before -/
theorem only_test_cases_touched (names : List String) (bugName extraName : Nat → String)
    (hb : ∀ n, isReportPath (bugName n) = true) (he : ∀ n, isReportPath (extraName n) = true)
    (tidy : Bool) (fs : FS) (log : List (D.Ev Bytes)) (disk : List Bytes) (p : String) (hp : Untouchable names p) :
    lookupFS (afterReduceD names bugName extraName tidy fs log disk) p = lookupFS fs p :=
  reduceD_frame names bugName extraName hb he tidy fs log disk p hp

/-- **the original survives**: nothing a reduction does writes a backup path, so `X.orig` holds after the reduction what
    `backup_test_cases` put there at the start (`backup_creates`: the original bytes of `X`) or found there
    (`backup_preserves`: the backup that already existed) -/
theorem original_survives (names : List String) (bugName extraName : Nat → String)
    (hb : ∀ n, isReportPath (bugName n) = true) (he : ∀ n, isReportPath (extraName n) = true)
    (fs : FS) (log : List (D.Ev Bytes)) (disk : List Bytes) (f : String)
    (hn : f ++ ".orig" ∉ names) (hr : isReportPath (f ++ ".orig") = false) :
    lookupFS (afterReduceD names bugName extraName false fs log disk) (f ++ ".orig") = lookupFS (backup fs names) (f ++ ".orig") :=
  reduceD_keeps_backups names bugName extraName hb he fs log disk f hn hr

/-- … in particular for the log of every run of the L2 driver model over byte contents -/
theorem frame_for_every_run {σ : Type} [Inhabited σ] (cfg : D.Cfg) (Wd : D.World Bytes) (dn : D.Sched) (orderOf : List Bytes → List Nat) (fuel : Nat)
    (first main last : List (D.PassI Bytes σ)) (x : D.St Bytes)
    (names : List String) (bugName extraName : Nat → String)
    (hb : ∀ n, isReportPath (bugName n) = true) (he : ∀ n, isReportPath (extraName n) = true)
    (tidy : Bool) (fs : FS) (p : String) (hp : Untouchable names p) :
    lookupFS (afterReduceD names bugName extraName tidy fs (D.LRes.st' (D.reduce cfg Wd dn orderOf fuel first main last x)).side.log
      (D.LRes.st' (D.reduce cfg Wd dn orderOf fuel first main last x)).disk) p = lookupFS fs p :=
  reduceD_frame names bugName extraName hb he tidy fs _ _ p hp

/-- non-vacuity: test cases `a.c`, `b.c`; `notes.txt` is untouchable; a commit on `a.c` and a bug report leave it alone
    and rewrite `a.c` -/
example : Untouchable ["a.c", "b.c"] "notes.txt" := by
  refine ⟨by decide, ?_, by decide⟩
  intro f hf
  simp only [List.mem_cons, List.mem_nil_iff, or_false] at hf
  rcases hf with rfl | rfl <;> decide
example : lookupFS (afterReduce ["a.c", "b.c"] (fun n => s!"cvise_bug_{n}") (fun n => s!"cvise_extra_{n}") false
    [("a.c", [1]), ("b.c", [2]), ("notes.txt", [3])] [.commit 0 0 [9], .bugdir]) "a.c" = some [9] := by decide +kernel
example : lookupFS (afterReduce ["a.c", "b.c"] (fun n => s!"cvise_bug_{n}") (fun n => s!"cvise_extra_{n}") false
    [("a.c", [1]), ("b.c", [2]), ("notes.txt", [3])] [.commit 0 0 [9], .bugdir]) "a.c.orig" = some [1] := by decide +kernel

/-! `--to-utf8`: the conversion happens in the front end, before the reduction makes its backup (F18) -/

/-- what a backup of `f` made now would leave in `f.orig` -/
def origOf (fs : FS) (f : String) : Option Bytes := (lookupFS fs (f ++ ".orig")).or (lookupFS fs f)

/-- the conversion step backs a file up before it rewrites it, so it never changes what `f.orig` is going to hold -/
theorem toUtf8Step_origOf (isUtf8 : Bytes → Bool) (conv : Bytes → Bytes) (f : String) :
    ∀ (ns : List String) (fs : FS), (∀ g ∈ ns, g ++ ".orig" ≠ f ∧ g ≠ f ++ ".orig") →
    origOf (toUtf8Step true false isUtf8 conv fs ns) f = origOf fs f
  | [], _, _ => rfl
  | g :: rest, fs, hg => by
    have ih := fun fs => toUtf8Step_origOf isUtf8 conv f rest fs fun x hx => hg x (.tail _ hx)
    obtain ⟨h1, h2⟩ := hg g (.head _)
    simp only [toUtf8Step]
    split
    · exact ih fs
    · next c hc =>
      split
      · exact ih fs
      · rw [ih, origOf, origOf, lookupFS_writeFS, lookupFS_writeFS, if_neg h2.symm]
        by_cases hgf : f = g
        · subst hgf
          cases ho : lookupFS fs (f ++ ".orig") <;> simp [ho, hc, lookupFS_append]
        · cases lookupFS fs (g ++ ".orig") <;> simp [lookupFS_append, hgf, Ne.symm h1]

/-- **with `--to-utf8` the original survives too**: for a test case `f` that exists with bytes `b` and has no backup yet
    (no test case is named like a backup, no name occurs twice), after the conversion step *and* any reduction, `f.orig`
    holds `b` — the bytes before the program touched the file, converted or not -/
theorem to_utf8_keeps_original (isUtf8 : Bytes → Bool) (conv : Bytes → Bytes)
    (names : List String) (bugName extraName : Nat → String)
    (hb : ∀ n, isReportPath (bugName n) = true) (he : ∀ n, isReportPath (extraName n) = true)
    (hnd : names.Nodup) (hno : ∀ g ∈ names, g ++ ".orig" ∉ names)
    (fs : FS) (log : List (D.Ev Bytes)) (disk : List Bytes) (f : String) (b : Bytes)
    (hf : f ∈ names) (hfb : lookupFS fs f = some b) (hfo : lookupFS fs (f ++ ".orig") = none)
    (hr : isReportPath (f ++ ".orig") = false) :
    lookupFS (afterReduceD names bugName extraName false (toUtf8Step true false isUtf8 conv fs names) log disk) (f ++ ".orig")
      = some b := by
  rw [original_survives names bugName extraName hb he _ log disk f (hno f hf) hr]
  have h := toUtf8Step_origOf isUtf8 conv f names fs fun g hg =>
    ⟨fun e => hno g hg (e ▸ hf), fun e => hno f hf (e ▸ hg)⟩
  rw [origOf, origOf, hfo, hfb] at h
  -- `f.orig` holds `b` already, or `f` still does and the backup copies it
  cases ho : lookupFS (toUtf8Step true false isUtf8 conv fs names) (f ++ ".orig") with
  | some c => rw [ho] at h; exact backup_preserves names _ _ b (ho.trans h)
  | none => rw [ho] at h; exact backup_creates names _ f b hf h ho

/-- the guard is the code's (regenerated from the `--to-utf8` block of `cvise.py` on every run) -/
theorem shipped_to_utf8_backup_first : Gen.toUtf8BackupFirst = true := by decide

/-- without the copy (the code before `39f513f`) the backup holds the *converted* bytes: `a.c` is Latin-1 (`[233]`),
    its conversion is `[195, 169]` -/
theorem old_to_utf8_loses_original :
    lookupFS (afterReduceD ["a.c"] (fun n => s!"cvise_bug_{n}") (fun n => s!"cvise_extra_{n}") false
      (toUtf8Step false false (fun b => b.all (· < 128)) (fun _ => [195, 169]) [("a.c", [233])] ["a.c"]) [] [[195, 169]]) "a.c.orig"
      = some [195, 169] := by decide +kernel

example :
    lookupFS (afterReduceD ["a.c"] (fun n => s!"cvise_bug_{n}") (fun n => s!"cvise_extra_{n}") false
      (toUtf8Step true false (fun b => b.all (· < 128)) (fun _ => [195, 169]) [("a.c", [233])] ["a.c"]) [] [[195, 169]]) "a.c.orig"
      = some [233] := by decide +kernel

end Cvise.C04
