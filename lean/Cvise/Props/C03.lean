import Cvise.Proofs.PassesTerm
import Cvise.Proofs.PassesBalTerm
import Cvise.Proofs.PassesTernTerm
import Cvise.Proofs.PassesPar
import Cvise.Proofs.DriverTotal
import Cvise.Proofs.PassesIntsTerm
import Cvise.Proofs.PassesCounterTerm
import Cvise.Props.C06
import Cvise.Gen.Const
/-!
# C03 — every pass and the whole reduction terminate
-/
namespace Cvise.C03
open Cvise Cvise.P Cvise.D

/-- a measure that drops on `advance` and on accept-then-`advance_on_success` bounds the number of candidates of a pass
    under every accept/reject history -/
theorem drive_bound {σ : Type} (Q : TextPass σ) (μ : Text → σ → Nat)
    (H1 : ∀ s st st', Q.advance s st = some st' → μ s st' < μ s st)
    (H2 : ∀ s st s2 st2 st', Q.transform s st = (.ok, s2, st2) → Q.aos s2 st2 = some st' → μ s2 st' < μ s st)
    (hist : List Bool) (s : Text) (st : σ) : (runHistory Q hist s (some st) []).1.length ≤ μ s st + 1 := by
  have := Cvise.P.drive_bound Q μ H1 H2 hist s st []
  simpa using this

/-- binary-search passes (lines, line markers, #if blocks, clang_delta ranges, gcda): at most `2n² + 4n + 1` candidates
    for `n` instances, for every test -/
theorem binary_search_bound {α : Type} (test : List α → Bool) (l : List α) :
    ∃ r, start test (startFuel l.length) l = some r := C06.completes test l

/-- the gcda pass restarts its search after every accepted removal: at most `(n+1)·(2n²+4n+1) + 1` candidates -/
theorem gcda_bound {α : Type} (test : List α → Bool) (l : List α) :
    ∃ r, gcdaStart test (gcdaFuel l.length) l = some r := C06.gcda_completes test l

/-- the ifs pass asks for every range twice (`#if 0`, `#if 1`): at most `2·(2n²+4n+1) + 2` candidates, for every test —
    value-sensitive or not -/
theorem ifs_bound {α : Type} (test : List α → Bool → Bool) (l : List α) :
    ∃ r, ifsStart test (ifsFuel l.length) l = some r := C06.ifs_completes test l

/-- balanced (all shipped arguments): at most `2·|s| + 2` candidates for **every** accept/reject history.  The measure is
    `2·|s| + 1 − start of the current match`: `advance` moves the start right, an accepted candidate is strictly shorter
    (every generated recipe shrinks a span of ≥ 2 characters or leaves the text unchanged — `balanced_recipes_shrink`,
    regenerated) and the search resumes at or after the old start -/
theorem balanced_bound (arg : String) (cfg : BalCfg) (hc : balCfg arg = some cfg) (hist : List Bool) (s : Text) (st : M.Span)
    (hnew : (balanced cfg).new s = some st) :
    (runHistory (balanced cfg) hist s (some st) []).1.length ≤ 2 * s.length + 2 :=
  P.balanced_bound cfg (balCfg_shrinks arg cfg hc) hist s st hnew

/-- the table hypothesis, decided over the regenerated recipes -/
theorem balanced_recipes_shrink : Gen.balancedCfg.all (fun x => shapeShrinks x.2.2.2.2) = true := P.balanced_recipes_shrink

example : (balCfg "parens").isSome = true := by decide +kernel

/-- ternary (arguments b, c): at most `2·|s| + 2` candidates for every accept/reject history (same measure; an accepted
    candidate keeps one operand of `x ? b : c` between its two border characters and is strictly shorter) -/
theorem ternary_bound (arg : String) (harg : arg = "b" ∨ arg = "c") (hist : List Bool) (s : Text) (st : TernSt)
    (hnew : (ternary arg).new s = some st) :
    (runHistory (ternary arg) hist s (some st) []).1.length ≤ 2 * s.length + 2 :=
  P.ternary_bound arg harg hist s st hnew

/-- ints a / b / c and special b / c: at most `|s|² + 4|s| + 3` candidates for **every** accept/reject history (an
    accepted candidate is strictly shorter, `advance_on_success` recomputes at most `|s'| + 2` modifications) -/
theorem ints_bound (arg : String) (harg : arg = "a" ∨ arg = "b" ∨ arg = "c") (hist : List Bool) (s : Text) (st : ModSt)
    (hnew : (modPass (intsEntry arg).1 (intsEntry arg).2).new s = some st) :
    (runHistory (modPass (intsEntry arg).1 (intsEntry arg).2) hist s (some st) []).1.length ≤ s.length * (s.length + 3) + s.length + 3 :=
  P.ints_bound arg harg hist s st hnew
theorem special_bc_bound (arg : String) (harg : arg = "b" ∨ arg = "c") (hist : List Bool) (s : Text) (st : ModSt)
    (hnew : (modPass (specialEntry arg).1 (specialEntry arg).2).new s = some st) :
    (runHistory (modPass (specialEntry arg).1 (specialEntry arg).2) hist s (some st) []).1.length ≤ s.length * (s.length + 3) + s.length + 3 :=
  P.special_bc_bound arg harg hist s st hnew

/-- the counter passes `blank` and `includes` — whose `advance` never ends and which rely on `transform` saying STOP —
    under **every** accept/reject history: at most `|patterns| + 2` resp. `|s|² + 3|s| + 2` candidates -/
theorem blank_bound (hist : List Bool) (s : Text) :
    (runHistory blank hist s (some 0) []).1.length ≤ Gen.blankPatterns.length + 2 := P.blank_bound hist s
theorem includes_bound (hist : List Bool) (s : Text) :
    (runHistory includes hist s (some 1) []).1.length ≤ s.length * (s.length + 2) + s.length + 2 := P.includes_bound hist s
/-- comments under **every** accept/reject history (all-reject: `comments_reject_bound`): an accepted candidate deletes
    comment text, so at most `(|s| + 1)·(|substitutions| + 2)` candidates -/
theorem comments_bound (hist : List Bool) (s : Text) :
    (runHistory comments hist s (some 0) []).1.length ≤ s.length * (Gen.commentsSubs.length + 2) + Gen.commentsSubs.length + 2 :=
  P.comments_bound hist s

/-- peep: `advance` walks `(pos, regex)` lexicographically and ends at `pos ≥ |s|` -/
theorem peep_advance_progress (arg : String) (s : Text) (st st' : PeepSt) (h : peepAdvance arg s st = some st') :
    st'.pos < s.length ∧ ((st'.pos = st.pos ∧ st'.regex = st.regex + 1) ∨ (st'.pos = st.pos + 1 ∧ st'.regex = 0)) := by
  unfold peepAdvance at h
  by_cases hw : st.regex + 1 ≥ peepLim arg
  · simp only [hw, if_true] at h
    split at h
    · cases h
    · rename_i hlt; cases h; exact ⟨by simpa using hlt, Or.inr ⟨rfl, rfl⟩⟩
  · simp only [hw, if_false] at h
    split at h
    · cases h
    · rename_i hlt; cases h; exact ⟨by simpa using hlt, Or.inl ⟨rfl, rfl⟩⟩

/-- comments: under all-reject at most `|subs| + 2` candidates -/
theorem comments_reject_bound (s : Text) (hist : List Bool) (hr : ∀ a ∈ hist, a = false) :
    (runHistory comments hist s (some 0) []).1.length ≤ Gen.commentsSubs.length + 2 := by
  have := Cvise.P.comments_reject_bound s hist hr 0 []
  simpa using this

/-- the main loop starts another round only after the total size became strictly smaller, so it ends after at most
    `total + 1` rounds whatever the passes do (growing, neutral, failing): more fuel is never used -/
theorem main_rounds_le {C σ : Type} [DecidableEq C] [Inhabited σ] [Inhabited C]
    (cfg : Cfg) (W : World C) (dn : Sched) (orderOf : List C → List Nat) (fuel : Nat) (ps : List (PassI C σ)) (x : D.St C) (rid n : Nat)
    (hn : totalSize W.size x.disk + 1 ≤ n) :
    mainLoop cfg W dn orderOf fuel ps n (.inl (x, rid)) =
    mainLoop cfg W dn orderOf fuel ps (totalSize W.size x.disk + 1) (.inl (x, rid)) :=
  mainLoop_stops cfg W dn orderOf fuel ps _ (.inl (x, rid)) (by simp [resTotal]) n hn

/-- the comparison that ends the main loop, as generated from `_run_main_passes` -/
theorem shipped_stop_cmp : Gen.mainLoopStopCmp = .ge := by decide

section driver
variable {C σ : Type} [DecidableEq C] [Inhabited σ] [Inhabited C]

/-- **all rounds of a pass on one file end**: for a pass with a measure that drops on `advance` and on
    accept-then-`advance_on_success` (`D.Measured`, the two conditions of `drive_bound`), the speculative driver needs no
    more than `μ + 1` rounds on a file and no more than `μ + 1` scheduling iterations per round — its result is the same
    for every larger fuel, whatever the test answers, whichever candidates fail, hang or crash, whatever the schedule and
    the limits.  (This is the model-level content of "the driver never wedges": fuel is the only thing that could end a
    run artificially, and it is never the reason.) -/
theorem pass_run_on_a_file_terminates (cfg : Cfg) (W : World C) (dn : Sched) (P : PassI C σ) (I : C → σ → Prop) (μ : C → σ → Nat)
    (hμ : Measured P I μ) (k startSize j fuel rid : Nat) (s : σ) (succ : Nat) (x : D.St C) (hk : k < x.disk.length)
    (hI : I (x.disk.getD k default) s)
    (h1 : μ (x.disk.getD k default) s < fuel) (h2 : μ (x.disk.getD k default) s < cfg.giveup + 1000) :
    fileLoop cfg W dn P k startSize fuel rid s succ x = fileLoop cfg W dn P k startSize (fuel + j) rid s succ x :=
  fileLoop_total cfg W dn P I μ hμ k startSize j fuel rid s succ x hk hI h1 h2

/-- **the whole reduction ends** (first / main to a fixpoint / last) for passes with a bounded measure: more fuel never
    changes the result; the number of main-loop rounds is bounded by `main_rounds_le` -/
theorem reduction_terminates (cfg : Cfg) (W : World C) (dn : Sched) (orderOf : List C → List Nat) (ho : OrderOK orderOf) (fuel j : Nat)
    (first main last : List (PassI C σ)) (x : D.St C)
    (h : ∀ P, P ∈ first ∨ P ∈ main ∨ P ∈ last → Terminating cfg fuel P) :
    reduce cfg W dn orderOf fuel first main last x = reduce cfg W dn orderOf (fuel + j) first main last x :=
  reduce_total cfg W dn orderOf ho fuel j first main last x h

end driver

/-- instances: the `balanced` and `ternary` pass models, plugged into the driver model as they are (contents = decoded
    text, cursor = the match span): the speculative driver finishes a file of `n` characters within `2n + 2` rounds,
    whatever the test, the faults, the schedule and the limits.  (`hsz`: the model's in-round fuel is
    `GIVEUP_CONSTANT + 1000`, enough for files below ~25 000 characters; the real loop has no such bound.) -/
theorem balanced_parallel_terminates (cfg : Cfg) (W : World Text) (dn : Sched) (arg : String) (bc : BalCfg) (hc : balCfg arg = some bc)
    (key : Nat) (maxT : Option Nat) (k startSize j rid : Nat) (st : M.Span) (succ : Nat) (x : D.St Text) (hk : k < x.disk.length)
    (hI : BalI (x.disk.getD k default) st) (hsz : 2 * (x.disk.getD k default).length + 2 ≤ cfg.giveup + 1000) :
    fileLoop cfg W dn ((balanced bc).toI key maxT) k startSize (2 * (x.disk.getD k default).length + 2) rid st succ x =
    fileLoop cfg W dn ((balanced bc).toI key maxT) k startSize (2 * (x.disk.getD k default).length + 2 + j) rid st succ x :=
  P.balanced_parallel_terminates cfg W dn bc (balCfg_shrinks arg bc hc) key maxT k startSize j rid st succ x hk hI hsz

theorem ternary_parallel_terminates (cfg : Cfg) (W : World Text) (dn : Sched) (arg : String) (harg : arg = "b" ∨ arg = "c")
    (key : Nat) (maxT : Option Nat) (k startSize j rid : Nat) (st : TernSt) (succ : Nat) (x : D.St Text) (hk : k < x.disk.length)
    (hI : TernI (x.disk.getD k default) st) (hsz : 2 * (x.disk.getD k default).length + 2 ≤ cfg.giveup + 1000) :
    fileLoop cfg W dn ((ternary arg).toI key maxT) k startSize (2 * (x.disk.getD k default).length + 2) rid st succ x =
    fileLoop cfg W dn ((ternary arg).toI key maxT) k startSize (2 * (x.disk.getD k default).length + 2 + j) rid st succ x :=
  P.ternary_parallel_terminates cfg W dn arg harg key maxT k startSize j rid st succ x hk hI hsz

/-- non-vacuity: a pass that counts a content down from at most 5 is `Terminating` with fuel 6 -/
def countdown : PassI Nat Nat where
  key := 0
  maxT := none
  new := fun _ => some 0
  advance := fun _ _ => none
  aos := fun _ s => some s
  transform := fun c s => if 0 < c ∧ c ≤ 5 then (.ok, c - 1, s) else (.stop, c, s)

example : Terminating ({} : Cfg) 6 countdown := by
  refine ⟨fun _ _ => True, fun c _ => if c ≤ 5 then c else 0, ⟨fun _ _ _ => trivial, fun _ _ _ _ _ => trivial, fun _ _ _ _ _ _ _ _ => trivial, ?_, ?_⟩, ?_⟩
  · intro c s s' _ h; simp [countdown] at h
  · intro c s c' s2 s' _ h _
    simp only [countdown] at h
    split at h
    · rename_i hc
      cases h
      have : c - 1 ≤ 5 := by omega
      simp only [this, hc.2, if_true]; omega
    · cases h
  · intro c s
    constructor
    · show (if c ≤ 5 then c else 0) < 6
      split <;> omega
    · show (if c ≤ 5 then c else 0) < 50000 + 1000
      split <;> omega
example : OrderOK (fun (d : List Nat) => List.range d.length) := by
  intro d k hk; simpa using hk

end Cvise.C03
