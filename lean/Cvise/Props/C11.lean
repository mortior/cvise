import Cvise.Proofs.Effects
import Cvise.Gen.Effects
import Cvise.Gen.World
import Cvise.Model.Passes
/-!
# C11 — pass states are values: enumeration never disturbs scheduled candidates

(a) the cursor passed to `advance` is left untouched: effect analysis of every control-flow path of every `advance`
    body (regenerated), sound w.r.t. a heap semantics;
(b) producing a candidate is a deterministic function of content, cursor and configuration: the pass models are
    functions (and tied to the code by K-pass); no scratch file stays next to the candidate (regenerated fact for the
    one pass that used one, manifests in C05);
(c) cursors survive being sent to a worker: pickling is outside any Lean model; decided by the pass explorer (partial).
-/
namespace Cvise.C11
open Cvise Cvise.Eff

/-- soundness of the analysis: a path judged non-mutating leaves the object the parameter points to unwritten -/
theorem analysis_sound (p : List Stmt) (h : mayMutateParam p = false) : 0 ∉ (exec p State.init).written := by
  apply analyse_sound p State.init [0] false _ h
  refine ⟨?_, by simp [State.init], by simp [State.init]⟩
  intro v hv
  simp only [State.init] at hv
  by_cases h0 : v = 0
  · simp [h0]
  · simp only [h0, if_false] at hv; omega

/-- every control-flow path of every `advance` in cvise/passes/*.py and of `BinaryState.advance` is judged non-mutating
    (finite table, regenerated on every run) -/
theorem advance_paths_pure :
    Gen.advancePaths.all (fun np => np.2.all (fun p => !mayMutateParam p)) = true := by decide +kernel

/-- hence: whichever path an `advance` takes, the cursor object it was given is not written -/
theorem advance_leaves_cursor_untouched (name : String) (paths : List (List Stmt)) (h : (name, paths) ∈ Gen.advancePaths)
    (p : List Stmt) (hp : p ∈ paths) : 0 ∉ (exec p State.init).written := by
  have h1 := List.all_eq_true.mp advance_paths_pure (name, paths) h
  have h2 := List.all_eq_true.mp h1 p hp
  exact analysis_sound p (by simpa using h2)

/-- the analysis is not vacuous: an in-place update of the parameter is flagged (this is what
    `BinaryState.advance_on_success` does, which is why it is only applied to the winner's private copy) -/
example : mayMutateParam [.write 0] = true := by decide
example : mayMutateParam [.alias 1 0, .write 1] = true := by decide
example : mayMutateParam [.copyOf 1 0, .write 1] = false := by decide

/-- candidates are a function of (content, cursor): two evaluations agree (the models are pure functions) -/
theorem transform_deterministic {σ : Type} (Q : Cvise.P.TextPass σ) (s s' : Cvise.P.Text) (st st' : σ) (h1 : s = s') (h2 : st = st') :
    Q.transform s st = Q.transform s' st' := by rw [h1, h2]

theorem scratch_removed : Gen.ifsScratchRemoved = true := by decide

/-- every pass method that creates a temporary file next to the candidate unlinks or moves it on every return path
    (finite table, regenerated on every run by a path-sensitive reading of the method bodies) -/
theorem scratch_removed_on_every_path : Gen.scratchFacts.all (fun f => f.2) = true := by decide

example : Gen.scratchFacts.length ≥ 8 := by decide

end Cvise.C11
