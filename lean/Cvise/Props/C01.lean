import Cvise.Proofs.DriverSafe
import Cvise.Gen.Const
/-!
# C01 — the reduced test cases are always an interesting set

`SafeDisk W orig d`: the directory state `d` is the original input, or there is an invocation `(round, order)` of the
interestingness test on exactly `d` that exited 0 (`invExit`: a scripted per-invocation fault if there is one, else the
deterministic test), or a sanity check (the test run directly on a copy of all test cases) on exactly `d` exited 0 — the
last case is how a pass whose `new` rewrites the file in place (`LinesPass.__format`, modelled by `PassI.fmt` /
`D.fmtStep`) keeps its rewriting.  The theorems hold for every number of files, every pass interface (arbitrary functions), every
test, every fault assignment, every schedule oracle, every limit setting, every fuel — and for error outcomes, whose
state is carried in the result.  Hypothesis `KeyOK`: the replay table is off or keyed on the joint contents; without
it the statement is false (`single_file_key_counterexample`, finding F1).
-/
namespace Cvise.C01
open Cvise Cvise.D
variable {C σ : Type} [DecidableEq C] [Inhabited σ] [Inhabited C]

/-- what a round hands to `process_result` was tested with exit 0 on exactly the joint contents that get committed -/
theorem commit_tested (cfg : Cfg) (W : World C) (dn : Sched) (P : PassI C σ) (disk : List C) (k : Nat) (s : σ) (rid : Nat)
    (more : Nat → Bool) (fuel t : Nat) (futs : List Nat) (g g' : Side C) (rs : RS) (i : Nat)
    (h : roundLoop cfg W.size P.key (disk.getD k default) (envOf W P disk k (disk.getD k default) s rid) more (dn rid)
          fuel t futs g rs = .inl (some i, g')) :
    invExit W (disk.set k (envOf W P disk k (disk.getD k default) s rid i).cand) rid (i+1) = .code 0 := by
  have hiff := (isAccept_iff cfg W.size _ _).mp (roundLoop_sound _ _ _ _ _ _ _ _ _ _ _ _ _ _ h)
  exact envOf_exit W P disk k _ s rid i hiff.1 hiff.2.1

/-- at the return of every `run_pass` (normal or error) -/
theorem runPass_safe (cfg : Cfg) (hk : KeyOK cfg) (W : World C) (dn : Sched) (P : PassI C σ) (orig : List C) (order : List Nat)
    (fuel rid : Nat) (x : St C) (h : Inv cfg W orig x) :
    Inv cfg W orig (LRes.st (runPass cfg W dn P order fuel rid x)) :=
  runPass_lift (fun r => Inv cfg W orig (LRes.st r)) P order rid x ⟨h.disk, h.cache⟩ ⟨h.disk, h.cache⟩
    (fun r k _ hr => fileStep_inv cfg hk W dn P orig fuel r k hr)

/-- at the return of `reduce` (normal or error) -/
theorem reduce_safe (cfg : Cfg) (hk : KeyOK cfg) (W : World C) (dn : Sched) (orderOf : List C → List Nat) (fuel : Nat)
    (first main last : List (PassI C σ)) (x : St C) (hc : x.cache = []) :
    SafeDisk W x.disk (LRes.st (reduce cfg W dn orderOf fuel first main last x)).disk :=
  (reduce_lift cfg W dn orderOf fuel (fun r => Inv cfg W x.disk (LRes.st r))
    (fun P => runPass_safe cfg hk W dn P x.disk) first main last x
    (.init cfg W x hc)).disk

/-- the shipped code keyed on one file's bytes: C01 fails for two identical test cases (F1) -/
theorem single_file_key_counterexample :
    ¬ SafeDisk wWorld [0, 0] (LRes.st (runPass (wCfg false) wWorld wDone wipe [0, 1] 10 0 { disk := [0, 0] })).disk := by
  rw [witness_disk_old]
  rintro (h | ⟨rid, ord, h⟩ | h)
  · cases h
  · simp [invExit, wWorld] at h
  · simp [wWorld] at h

/-- the code as it is now keys the table on the joint contents (regenerated from `run_pass` on every run), so
    `reduce_safe` applies to it with any cache setting -/
theorem shipped_key_ok (cfg : Cfg) (h : cfg.jointKey = Gen.cacheKeyJoint) : KeyOK cfg := by
  right; rw [h]; decide

/-- non-vacuity of `reduce_safe`: the same scenario with the joint key commits a tested pair -/
example : (LRes.st (runPass (wCfg true) wWorld wDone wipe [0, 1] 10 0 { disk := [0, 0] })).disk = [1, 0] := witness_disk_joint
example : KeyOK (wCfg true) := Or.inr rfl

/-- … and at the return of a reduction started with `--start-with-pass`, with `skip_initial`, or with passes whose
    external programs are missing (`D.reduceG`): skipping passes never leaves an untested set behind -/
theorem reduce_gated_safe (cfg : Cfg) (hk : KeyOK cfg) (W : World C) (dn : Sched) (orderOf : List C → List Nat) (fuel : Nat)
    (avail : PassI C σ → Bool) (skip : Bool) (first main last : List (PassI C σ)) (x : St C) (sw : Option Nat) (hc : x.cache = []) :
    SafeDisk W x.disk (LRes.st (reduceG cfg W dn orderOf fuel avail skip first main last x sw).1).disk :=
  (reduceG_lift cfg W dn orderOf fuel avail (fun r => Inv cfg W x.disk (LRes.st r))
    (fun P => runPass_safe cfg hk W dn P x.disk) skip first main last x sw (.init cfg W x hc)).disk

end Cvise.C01
