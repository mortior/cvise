import Cvise.Proofs.DriverCounters


import Cvise.Model.Timing
import Cvise.Gen.World
/-!
# C20 — the pass statistics report what happened

Per pass key, in the L2 model (`Side.failed/executed/worked` are what `PassStatistic.stats[repr(pass)]` holds).
-/
namespace Cvise.C20
open Cvise Cvise.D
variable {C σ : Type} [DecidableEq C] [Inhabited σ] [Inhabited C]

/-- one judgement counts at most one failure, for the current pass only -/
theorem judge_once (cfg : Cfg) (size : C → Nat) (cur : C) (e : EnvRes C σ) (g g' : Side C) (gu gu' : Bool) (o : Outcome)
    (h : check cfg size cur e g gu = (o, g', gu')) (p : Nat) :
    g.failed p ≤ g'.failed p ∧ g'.failed p ≤ g.failed p + wt p g.curPass 1 :=
  (check_judged h).failed_le p

/-- a round never counts more failures than candidates it started, whatever the schedule (including rounds that end
    by cancellation, error or exhaustion), and never touches "worked" -/
theorem round_failed_le (cfg : Cfg) (size : C → Nat) (pkey : Nat) (cur : C) (env : Nat → EnvRes C σ) (more : Nat → Bool)
    (done : Nat → Nat → Bool) (fuel : Nat) (g : Side C) (h : ∀ p, g.failed p ≤ g.executed p) :
    let g' := RRes.side (roundLoop cfg size pkey cur env more done fuel 0 [] g {})
    g'.worked = g.worked ∧ ∀ p, g'.failed p ≤ g'.executed p := by
  have := roundLoop_ok cfg size pkey cur env more done fuel 0 [] g {} (by intro p; simpa [wt] using h p)
  exact ⟨this.1, this.2.2⟩

/-- "failed" never exceeds "total executed", for every pass, at the end of every reduction -/
theorem failed_le_executed (cfg : Cfg) (W : World C) (dn : Sched) (orderOf : List C → List Nat) (fuel : Nat)
    (first main last : List (PassI C σ)) (x : St C) (h : StatOK x) (p : Nat) :
    (LRes.st' (reduce cfg W dn orderOf fuel first main last x)).side.failed p ≤
    (LRes.st' (reduce cfg W dn orderOf fuel first main last x)).side.executed p :=
  reduce_lift cfg W dn orderOf fuel (fun r => StatOK (LRes.st' r))
    (runPass_stat cfg W dn) first main last x h p

/-- "worked" equals the number of accepted transformations, per pass, at the end of every reduction -/
theorem worked_eq_accepted (cfg : Cfg) (W : World C) (dn : Sched) (orderOf : List C → List Nat) (fuel : Nat)
    (first main last : List (PassI C σ)) (x : St C) (h : WInv x) (p : Nat) :
    (LRes.st' (reduce cfg W dn orderOf fuel first main last x)).side.worked p =
    acceptedOf p (LRes.st' (reduce cfg W dn orderOf fuel first main last x)).side.log :=
  reduce_lift cfg W dn orderOf fuel (fun r => WInv (LRes.st' r))
    (runPass_worked cfg W dn) first main last x h p

/-- "total executed" equals the number of candidates that were started, per pass, at the end of every reduction (any
    outcome, any schedule, any faults; rounds that end by cancellation included) -/
theorem executed_eq_started (cfg : Cfg) (W : World C) (dn : Sched) (orderOf : List C → List Nat) (fuel : Nat)
    (first main last : List (PassI C σ)) (x : St C) (h : EInv x) (p : Nat) :
    (LRes.st' (reduce cfg W dn orderOf fuel first main last x)).side.executed p =
    startedOf p (LRes.st' (reduce cfg W dn orderOf fuel first main last x)).side.log :=
  reduce_lift cfg W dn orderOf fuel (fun r => EInv (LRes.st' r))
    (runPass_executed cfg W dn) first main last x h p

/-- **the time attributed to passes is non-negative and does not exceed the elapsed time**: for clock readings taken in
    order from one monotonic clock (`Tm.Ordered`: reduction start ≤ pass start ≤ pass stop ≤ next pass start ≤ … ≤ reduction
    end; pass runs do not overlap), every pass interval is ≥ 0 and their sum is ≤ the elapsed time -/
theorem pass_time_bounds (ivs : List (Int × Int)) (t0 t1 : Int) (h : Tm.Ordered t0 ivs t1) :
    (∀ iv ∈ ivs, 0 ≤ iv.2 - iv.1) ∧ 0 ≤ Tm.attributed ivs ∧ Tm.attributed ivs ≤ t1 - t0 := by
  induction ivs generalizing t0 with
  | nil => simp only [Tm.Ordered] at h; simp [Tm.attributed]; omega
  | cons iv rest ih =>
    obtain ⟨s, e⟩ := iv
    obtain ⟨h1, h2, h3⟩ := h
    obtain ⟨i3, i1, i2⟩ := ih e h3
    simp only [Tm.attributed]
    refine ⟨?_, by omega, by omega⟩
    intro iv hiv
    simp only [List.mem_cons] at hiv
    rcases hiv with rfl | hiv
    · omega
    · exact i3 iv hiv

/-- the hypothesis is about the clock the code reads: both the pass timer and the elapsed time use `time.monotonic`
    (regenerated); with a wall clock a step between `start` and `stop` breaks both bounds (`wall_clock_counterexample`) -/
theorem shipped_clock : Gen.statsClockMonotonic = true := by decide
theorem wall_clock_counterexample : Tm.stepped 10 11 (-100) < 0 ∧ Tm.stepped 10 11 100 > 20 - 0 := by decide

example : Tm.Ordered 0 [(1, 4), (4, 9)] 12 := by simp [Tm.Ordered]
example : EInv ({ disk := [0] } : St Nat) := fun _ => rfl
example : StatOK ({ disk := [0] } : St Nat) := fun _ => Nat.le_refl _
example : WInv ({ disk := [0] } : St Nat) := fun _ => rfl

/-- the three statistics statements for reductions started with `--start-with-pass` / `skip_initial` / missing
    prerequisites (`D.reduceG`): a skipped pass touches no counter and no log entry -/
theorem gated_statistics (cfg : Cfg) (W : World C) (dn : Sched) (orderOf : List C → List Nat) (fuel : Nat)
    (avail : PassI C σ → Bool) (skip : Bool) (first main last : List (PassI C σ)) (x : St C) (sw : Option Nat)
    (hs : StatOK x) (hw : WInv x) (he : EInv x) (p : Nat) :
    let y := LRes.st' (reduceG cfg W dn orderOf fuel avail skip first main last x sw).1
    y.side.failed p ≤ y.side.executed p ∧ y.side.worked p = acceptedOf p y.side.log ∧ y.side.executed p = startedOf p y.side.log := by
  refine ⟨?_, ?_, ?_⟩
  · exact reduceG_lift cfg W dn orderOf fuel avail (fun r => StatOK (LRes.st' r))
      (runPass_stat cfg W dn) skip first main last x sw hs p
  · exact reduceG_lift cfg W dn orderOf fuel avail (fun r => WInv (LRes.st' r))
      (runPass_worked cfg W dn) skip first main last x sw hw p
  · exact reduceG_lift cfg W dn orderOf fuel avail (fun r => EInv (LRes.st' r))
      (runPass_executed cfg W dn) skip first main last x sw he p

end Cvise.C20
