import Cvise.Model.World
import Cvise.Gen.World
/-!
# C08 — no temporary directories or processes are left behind (directory bookkeeping; for processes: which exits call
`kill_pid_queue()`, the rest is observed through /proc)
-/
namespace Cvise.C08
open Cvise Cvise.W

/-- a well-shaped `run_pass`: the root is created only after the zero-size test and every way out removes it -/
def GoodShape (sh : Shape) : Prop :=
  sh.rootAfterZeroCheck = true ∧ sh.removeRootOnError = true ∧ sh.removeRootOnInterrupt = true ∧
  sh.removeRootOnReturn = true ∧ sh.candidateDirsInsideRoot = true ∧ sh.setupBeforeRoot = true

/-- for every exit of a pass run — skipped by --start-with-pass, zero size, normal, C-Vise error (die-on-pass-bug,
    missing file), foreign exception from a worker, keyboard interrupt, a failure while the pass is being set up (the key
    reader without a standard input) — nothing of the pass stays under TMPDIR
    unless --save-temps -/
theorem tmp_clean (sh : Shape) (h : GoodShape sh) (e : PassExit) :
    rootLeft sh false e = false ∧ candidateDirsLeft sh false e = false := by
  obtain ⟨h1, h2, h3, h4, h5, h6⟩ := h
  cases e <;> simp [rootLeft, candidateDirsLeft, h1, h2, h3, h4, h5, h6]

/-- … and no test script started for a candidate survives the pass run: every way out goes through `kill_pid_queue()`
    (after every round on the normal path, in both exception handlers otherwise) -/
def GoodKills (sh : Shape) : Prop := sh.killAfterEveryRound = true ∧ sh.killOnError = true ∧ sh.killOnInterrupt = true

theorem scripts_clean (sh : Shape) (h : GoodKills sh) (e : PassExit) : scriptsLeft sh e = false := by
  obtain ⟨h1, h2, h3⟩ := h
  cases e <;> simp [scriptsLeft, h1, h2, h3]

theorem shipped_kills : GoodKills Gen.shape := by unfold GoodKills; decide

/-- before fix F14 the error exits skipped it: a pass run that ended with --die-on-pass-bug left the scripts of the other
    in-flight candidates running -/
theorem old_error_exit_leaves_scripts :
    scriptsLeft { rootAfterZeroCheck := true, removeRootOnError := true, removeRootOnInterrupt := true, removeRootOnReturn := true,
                  sanityDirRemoved := true, candidateDirsInsideRoot := true, killOnError := false, killOnInterrupt := false } .cviseError = true := by decide

/-- `kill_pid_queue()` can only end the processes whose pids were recorded: every helper program a pass starts from
    `transform` (inside a candidate's worker) goes through `ProcessEventNotifier.run_process` — the list of launches that
    bypass it, regenerated from `cvise/passes/*.py`, is empty.  (Before fix F15 it held `unifdef.UnIfDefPass.transform:
    subprocess.run`: the `unifdef -s` listing of a cancelled candidate kept running after the pass run.) -/
theorem shipped_helpers_tracked : Gen.untrackedHelperCalls = [] := by decide

/-- the code has that shape (regenerated from `run_pass` on every run) -/
theorem shipped_shape : GoodShape Gen.shape ∧ Gen.shape.sanityDirRemoved = true := by unfold GoodShape; decide

/-- the shape of the shipped snapshot 6d25a67 leaked the root on two exits (finding F3a) -/
theorem old_shape_leaks :
    let old : Shape := { rootAfterZeroCheck := false, removeRootOnError := false, removeRootOnInterrupt := true,
                         removeRootOnReturn := true, sanityDirRemoved := true, candidateDirsInsideRoot := true }
    rootLeft old false .zeroSize = true ∧ rootLeft old false .cviseError = true ∧ rootLeft old false .foreign = true := by
  decide

/-- before fix F16 the key reader was constructed after `create_root()` and outside the `try`: without a standard input the
    pass root stayed behind -/
theorem old_setup_order_leaks :
    rootLeft { rootAfterZeroCheck := true, removeRootOnError := true, removeRootOnInterrupt := true, removeRootOnReturn := true,
               sanityDirRemoved := true, candidateDirsInsideRoot := true, setupBeforeRoot := false } false .setupFails = true := by decide

/-- with --save-temps the root is kept on purpose (non-vacuity of the flag) -/
example : rootLeft Gen.shape true .normal = true := by decide

end Cvise.C08
