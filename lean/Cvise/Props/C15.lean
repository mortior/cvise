import Cvise.Proofs.BinaryGenEq
import Cvise.Model.Binary
import Cvise.Gen.Const
import Cvise.Gen.Tools
/-!
# C15 — clang_delta is driven so that instance ranges tile the instances exactly

The driver asks the tool for `--counter=index+1 --to-counter=end` (`ClangBinarySearchPass.transform`).  The theorems are
about the cursor model `BS` (proved equal to the regenerated bodies of `BinaryState`, see C06).
-/
namespace Cvise.C15

/-- the counter range of a cursor, as passed to the tool -/
def request (s : BS) : Nat × Nat := (s.index + 1, s.end_)

/-- every request is non-empty and within the count the tool last reported -/
theorem request_in_range (s : BS) (h : s.Inv) : 1 ≤ (request s).1 ∧ (request s).1 ≤ (request s).2 ∧ (request s).2 ≤ s.instances :=
  ⟨Nat.le_add_left .., h.index_lt_end, s.end_le⟩

/-- a granularity starts at instance 1 -/
theorem first_request (n : Nat) (s : BS) (h : BS.create n = some s) : (request s).1 = 1 ∧ s.instances = n := by
  obtain ⟨_, rfl⟩ := BS.create_some h
  exact ⟨rfl, rfl⟩

/-- consecutive requests at one granularity are adjacent: no gap, no overlap -/
theorem next_request_adjacent (s t : BS) (h : s.Inv) (ha : s.advance = some t) (hc : t.chunk = s.chunk ∧ t.index ≠ 0) :
    (request t).1 = (request s).2 + 1 ∧ t.instances = s.instances := by
  obtain ⟨ht, hi, ⟨_, h2⟩ | ⟨_, h2, _⟩⟩ := BS.advance_inv h ha
  · have := ht.1
    exact ⟨by simp only [request, h2, BS.end_of_le (s := s) (by omega)], hi⟩
  · exact absurd h2 hc.2

/-- when the granularity changes (or the run ends) the last request ended at the reported count: the level tiled 1..N -/
theorem last_request_reaches_end (s : BS) (h : s.Inv)
    (ha : s.advance = none ∨ ∃ t, s.advance = some t ∧ t.index = 0) : (request s).2 = s.instances := by
  apply BS.end_of_ge
  rcases ha with ha | ⟨t, ha, ht⟩
  · have := BS.advance_none h ha
    omega
  · obtain ⟨_, _, ⟨_, h2⟩ | ⟨_, _, h3⟩⟩ := BS.advance_inv h ha
    · have := h.2
      omega
    · exact h3

/-- the new granularity starts at instance 1 again -/
theorem wrap_restarts (s t : BS) (h : s.Inv) (ha : s.advance = some t) (hc : t.chunk ≠ s.chunk) : (request t).1 = 1 := by
  obtain ⟨_, _, hcase⟩ := BS.advance_inv h ha
  rcases hcase with ⟨h1, _⟩ | ⟨_, h2, _⟩
  · exact absurd h1 hc
  · simp [request, h2]

/-- after an accepted removal the driver continues with `reported − removed` instances at the same index (or at the next
    granularity when the index fell off the end) -/
theorem after_accept (s t : BS) (reported : Nat) (h : s.Inv)
    (ha : s.advanceOnSuccess (reported - s.realChunk) = some t) :
    t.instances = reported - s.realChunk ∧ t.Inv ∧ ((t.chunk = s.chunk ∧ t.index = s.index) ∨ (t.chunk = s.chunk / 2 ∧ t.index = 0)) := by
  obtain ⟨h1, h2, h3⟩ := BS.aos_inv h ha
  refine ⟨h2, h1, ?_⟩
  rcases h3 with h3 | ⟨a, b, _⟩
  · exact Or.inl h3
  · exact Or.inr ⟨a, b⟩

/-- choice of the C++ standard: fold over the (regenerated) list with the (regenerated) comparison -/
def bestStd (cmp : Gen.Cmp) (init : Int) (counts : List (String × Int)) : Option String × Int :=
  counts.foldl (fun (acc : Option String × Int) (sc : String × Int) => if cmp.eval sc.2 acc.2 then (some sc.1, sc.2) else acc) (none, init)

theorem fold_ge (counts : List (String × Int)) : ∀ (acc : Option String × Int),
    let r := counts.foldl (fun (acc : Option String × Int) (sc : String × Int) =>
      if Gen.Cmp.eval .ge sc.2 acc.2 then (some sc.1, sc.2) else acc) acc
    acc.2 ≤ r.2 ∧ (∀ sc ∈ counts, sc.2 ≤ r.2) ∧
    -- the winner is the accumulator (then everything in the list is strictly smaller) or the last element reaching the maximum
    ((r = acc ∧ ∀ sc ∈ counts, sc.2 < acc.2) ∨
     (∃ pre sc post, counts = pre ++ sc :: post ∧ r = (some sc.1, sc.2) ∧ ∀ x ∈ post, x.2 < sc.2)) := by
  induction counts with
  | nil => intro acc; simp
  | cons x xs ih =>
    intro acc
    simp only [List.foldl_cons]
    by_cases hc : Gen.Cmp.eval .ge x.2 acc.2 = true
    · simp only [hc, if_true]
      have hge : acc.2 ≤ x.2 := by simpa [Gen.Cmp.eval] using hc
      obtain ⟨h1, h2, h3⟩ := ih (some x.1, x.2)
      refine ⟨by omega, ?_, ?_⟩
      · intro sc hsc
        simp only [List.mem_cons] at hsc
        rcases hsc with rfl | hsc
        · exact h1
        · exact h2 sc hsc
      · right
        rcases h3 with ⟨e, hlt⟩ | ⟨pre, sc, post, e1, e2, e3⟩
        · exact ⟨[], x, xs, rfl, e, hlt⟩
        · exact ⟨x :: pre, sc, post, by simp [e1], e2, e3⟩
    · simp only [hc, Bool.false_eq_true, if_false]
      have hlt : x.2 < acc.2 := by simpa [Gen.Cmp.eval] using hc
      obtain ⟨h1, h2, h3⟩ := ih acc
      refine ⟨h1, ?_, ?_⟩
      · intro sc hsc
        simp only [List.mem_cons] at hsc
        rcases hsc with rfl | hsc
        · omega
        · exact h2 sc hsc
      · rcases h3 with ⟨e, hl⟩ | ⟨pre, sc, post, e1, e2, e3⟩
        · left
          refine ⟨e, ?_⟩
          intro sc hsc
          simp only [List.mem_cons] at hsc
          rcases hsc with rfl | hsc
          · exact hlt
          · exact hl sc hsc
        · right; exact ⟨x :: pre, sc, post, by simp [e1], e2, e3⟩

/-- with the comparison as it is in the source (`>=`, start −1) and non-negative counts: the chosen standard offers the
    most instances, and every later standard offers strictly fewer — the newest standard wins ties -/
theorem best_std_spec (counts : List (String × Int)) (hne : counts ≠ []) (hpos : ∀ sc ∈ counts, 0 ≤ sc.2) :
    ∃ pre sc post, counts = pre ++ sc :: post ∧ bestStd .ge (-1) counts = (some sc.1, sc.2) ∧
      (∀ x ∈ counts, x.2 ≤ sc.2) ∧ (∀ x ∈ post, x.2 < sc.2) := by
  obtain ⟨h1, h2, h3⟩ := fold_ge counts (none, -1)
  rcases h3 with ⟨_, hl⟩ | ⟨pre, sc, post, e1, e2, e3⟩
  · cases counts with
    | nil => exact absurd rfl hne
    | cons x xs =>
      have := hl x List.mem_cons_self
      have := hpos x List.mem_cons_self
      omega
  · refine ⟨pre, sc, post, e1, e2, ?_, e3⟩
    intro x hx
    have := h2 x hx
    rw [e2] at this
    exact this

theorem shipped_cmp_is_ge : Gen.bestStdCmp = .ge ∧ Gen.bestStdInit = -1 := by decide

/-- the code a driver treats as success -/
def okCode (drv : String) : Int := if drv = "clex" then 51 else 0

/-- **a tool run that fails leaves the file alone and is not reported OK**: for each of the three helper drivers
    (`ClangPass`, `ClangBinarySearchPass`, `ClexPass`) and every return code in the regenerated table — ordinary failures,
    the protocol's STOP codes, and deaths from a signal (negative codes) — the test case is overwritten with the tool's
    output only on the success code, and only the success code yields `OK`.  (`Gen.pyRun` is produced by running the
    statement list of each `transform` on concrete return codes, so an early-return rewrite of the same logic gives the
    same table.) -/
theorem failed_run_output_unused :
    Gen.pyRun.all (fun d => d.2.all (fun e => (e.2.2 == true || e.2.1 == "OK") == (e.1 == okCode d.1))) = true := by decide

/-- a tool killed by a signal (SIGSEGV, SIGABRT, SIGKILL, SIGTERM) is an ERROR for every driver -/
theorem signal_deaths_are_errors :
    Gen.pyRun.all (fun d => d.2.all (fun e => decide (e.1 < 0) → e.2.1 == "ERROR")) = true := by decide

/-- all three drivers are in the table, with the same 13 codes each -/
theorem run_table_complete : Gen.pyRun.map (·.1) = ["clang", "clangbinarysearch", "clex"] ∧ Gen.pyRun.all (fun d => d.2.length == 13) = true := by decide


/-- the requests of one level / the instances a request names: `BS.level`, `BS.expand` of the model (the model driver prints
    `level`, and the check compares it with the argv log of the real pass) -/
abbrev level := BS.level
abbrev expand := BS.expand

theorem level_tiles_from : ∀ (fuel : Nat) (s : BS), s.Inv → s.instances - s.index ≤ fuel →
    (level s fuel).flatMap expand = List.range' (s.index + 1) (s.instances - s.index) := by
  intro fuel
  induction fuel with
  | zero => intro s h hf; have := h.1; omega
  | succ fuel ih =>
    intro ⟨i, c, n⟩ ⟨h1, hc⟩ hf
    show (BS.level ⟨i, c, n⟩ (fuel + 1)).flatMap BS.expand = List.range' (i + 1) (n - i)
    simp only at h1 hc hf
    rcases Nat.lt_or_ge (i + c) n with hlt | hge
    · -- the request names `c` instances, the rest of the level (by `ih`) the others
      rw [BS.level_of_lt hlt hc, List.flatMap_cons, BS.expand_request, BS.end_of_le (Nat.le_of_lt hlt),
        ih ⟨_, _, _⟩ ⟨hlt, hc⟩ (show n - (i + c) ≤ fuel by omega), Nat.add_sub_cancel_left,
        Nat.add_right_comm i c 1, List.range'_append_1]
      dsimp only
      congr 1
      omega
    · rw [BS.level_of_ge hge, List.flatMap_cons, BS.expand_request, BS.end_of_ge hge]
      exact List.append_nil _

/-- **the ranges of one granularity tile the instances**: started at index 0 and rejected throughout, the requests of a level
    name every instance 1..N exactly once, in order -/
theorem level_tiles (s : BS) (h : s.Inv) (h0 : s.index = 0) (fuel : Nat) (hf : s.instances ≤ fuel) :
    (level s fuel).flatMap expand = List.range' 1 s.instances := by
  have := level_tiles_from fuel s h (by omega)
  rwa [h0] at this

example : (level ⟨0, 3, 10⟩ 10) = [(1, 3), (4, 6), (7, 9), (10, 10)] := by decide

/-- after an accepted removal the rest of the level tiles what is left, from the position the driver continues at: with the
    tool-reported count minus the removed chunk as the new N, the remaining requests name `index+1 .. N` exactly once -/
theorem level_tiles_after_accept (s t : BS) (reported : Nat) (h : s.Inv)
    (ha : s.advanceOnSuccess (reported - s.realChunk) = some t) (fuel : Nat) (hf : reported - s.realChunk ≤ fuel) :
    (level t fuel).flatMap expand = List.range' (t.index + 1) (reported - s.realChunk - t.index) := by
  obtain ⟨h1, h2, _⟩ := after_accept s t reported h ha
  have := level_tiles_from fuel t h2 (by omega)
  rw [h1] at this
  exact this


/-- no gap, stated per instance: at a level that is rejected throughout, every instance 1..N lies in one of the requested ranges -/
theorem every_instance_requested (s : BS) (h : s.Inv) (h0 : s.index = 0) (fuel : Nat) (hf : s.instances ≤ fuel)
    (i : Nat) (h1 : 1 ≤ i) (h2 : i ≤ s.instances) : ∃ r ∈ level s fuel, r.1 ≤ i ∧ i ≤ r.2 := by
  have hm : i ∈ (level s fuel).flatMap expand := by
    rw [level_tiles s h h0 fuel hf]; simp; omega
  obtain ⟨r, hr, hi⟩ := List.mem_flatMap.mp hm
  refine ⟨r, hr, ?_⟩
  simp [BS.expand] at hi
  omega

/-- no overlap, stated on the expansion: no instance is named twice at one level -/
theorem no_instance_requested_twice (s : BS) (h : s.Inv) (h0 : s.index = 0) (fuel : Nat) (hf : s.instances ≤ fuel) :
    ((level s fuel).flatMap expand).Nodup := by
  rw [level_tiles s h h0 fuel hf]; exact List.nodup_range' 1


/-- the first level (chunk = N) tiles 1..N -/
theorem first_level_tiles (n : Nat) (s : BS) (h : BS.create n = some s) (fuel : Nat) (hf : n ≤ fuel) :
    (level s fuel).flatMap expand = List.range' 1 n := by
  obtain ⟨h0, rfl⟩ := BS.create_some h
  exact level_tiles _ ⟨Nat.pos_of_ne_zero h0, Nat.pos_of_ne_zero h0⟩ rfl fuel hf

/-- every later level does too: when `advance` wraps to a finer granularity, the level it starts tiles the same 1..N -/
theorem next_level_tiles (s t : BS) (h : s.Inv) (ha : s.advance = some t) (h0 : t.index = 0) (fuel : Nat)
    (hf : s.instances ≤ fuel) : (level t fuel).flatMap expand = List.range' 1 s.instances := by
  obtain ⟨hti, hinst, _⟩ := BS.advance_inv h ha
  rw [← hinst]
  exact level_tiles t hti h0 fuel (by omega)

end Cvise.C15
