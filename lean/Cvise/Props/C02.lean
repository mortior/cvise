import Cvise.Proofs.DriverPar
/-!
# C02 — parallel speculative reduction equals the sequential greedy reduction (round level)

`R.loop` is `run_parallel_tests` reduced to its scheduling skeleton: an ordered list of in-flight candidates, the scan
of `process_done_futures`, the final `wait_for_first_success`.  `done t i` — is candidate `i` finished when the scan of
iteration `t` looks at it — is an arbitrary oracle: the number of parallel tests and the timing of the workers only
decide *which* oracle occurs, so a theorem for all oracles covers every `N` and every completion order.
`WB`: no timeouts and STOP only as a suffix of the enumeration (the contract of well-behaved passes); `WBon S` asks it of
the candidates in `S` only, and the round of the driver model needs it of its own `m` candidates (`S = (· < m)`).
-/
namespace Cvise.C02
open Cvise.R

/-- for every completion schedule the round returns what the one-candidate-at-a-time scan returns -/
theorem round_par_eq_seq (MAXT : Nat) (res : Nat → Verdict) (wb : WB res) (done : Nat → Nat → Bool) (m : Nat) (hm : 0 < m) (tc : Nat) :
    loop MAXT res done m 0 [] tc = seqFirst res m 0 := R.round_par_eq_seq MAXT res wb done m hm tc

/-- the sequential scan returns the first candidate that is not ignored, and only if it is an accept:
    no earlier candidate is left untested or overtaken -/
theorem seq_first_is_first (res : Nat → Verdict) (m : Nat) : ∀ (k i w : Nat), m - i = k → seqFirst res m i = some w →
    i ≤ w ∧ w < m ∧ res w = .accept ∧ ∀ j, i ≤ j → j < w → res j = .ignore :=
  fun _ i w _ h => seqFirst_spec res m i w h

/-- both together: the winner of the parallel round is the first interesting candidate in enumeration order -/
theorem round_no_skip (MAXT : Nat) (res : Nat → Verdict) (wb : WB res) (done : Nat → Nat → Bool) (m : Nat) (hm : 0 < m) (tc w : Nat)
    (h : loop MAXT res done m 0 [] tc = some w) :
    w < m ∧ res w = .accept ∧ ∀ j, j < w → res j = .ignore := by
  rw [round_par_eq_seq MAXT res wb done m hm tc] at h
  obtain ⟨_, b, c, d⟩ := seq_first_is_first res m _ 0 w rfl h
  exact ⟨b, c, fun j hj => d j (Nat.zero_le _) hj⟩

/-- the round of the driver model (the one tied to `testing.py` by the correspondence check) returns the first
    interesting candidate, for every schedule oracle, whenever the candidates are well-behaved -/
theorem round_winner_eq_seq {C σ : Type} [DecidableEq C] (cfg : D.Cfg) (size : C → Nat) (pkey : Nat) (cur : C)
    (env : Nat → D.EnvRes C σ) (done : Nat → Nat → Bool) (m : Nat) (hm : 0 < m)
    (ht : ∀ i, i < m → D.Tame cfg cur (env i))
    (hstop : ∀ i j, i < j → j < m → (env i).pr = .stop → (env j).pr = .stop)
    (fuel : Nat) (hf : m ≤ fuel) (g : D.Side C) :
    ∃ g', D.roundLoop cfg size pkey cur env (fun t => decide (t < m)) done fuel 0 [] g {} =
      .inl (seqFirst (fun i => D.vd cfg size cur (env i)) m 0, g') :=
  D.round_winner_eq_seq cfg size pkey cur env done m hm ht hstop fuel hf g

/-- whole reduction: final files, replay table and control flow are the same for any two schedules -/
theorem reduce_schedule_irrelevant {C σ : Type} [DecidableEq C] [Inhabited σ] [Inhabited C]
    (cfg : D.Cfg) (W : D.World C) (d d' : D.Sched) (orderOf : List C → List Nat) (fuel : Nat)
    (first main last : List (D.PassI C σ))
    (hg : ∀ P, P ∈ first ∨ P ∈ main ∨ P ∈ last → D.GoodPass cfg W P) (x : D.St C) :
    D.SimR (D.reduce cfg W d orderOf fuel first main last x) (D.reduce cfg W d' orderOf fuel first main last x) :=
  D.reduce_schedule_irrelevant cfg W d d' orderOf fuel first main last hg x

/-- … and so is the sequence of accepted variants (the commit log), not only the final files -/
theorem accepted_sequence_schedule_irrelevant {C σ : Type} [DecidableEq C] [Inhabited σ] [Inhabited C]
    (cfg : D.Cfg) (W : D.World C) (d d' : D.Sched) (orderOf : List C → List Nat) (fuel : Nat)
    (first main last : List (D.PassI C σ))
    (hg : ∀ P, P ∈ first ∨ P ∈ main ∨ P ∈ last → D.GoodPass cfg W P) (x : D.St C) :
    D.commits (D.LRes.st (D.reduce cfg W d orderOf fuel first main last x)).side.log =
    D.commits (D.LRes.st (D.reduce cfg W d' orderOf fuel first main last x)).side.log ∧
    (D.LRes.st (D.reduce cfg W d orderOf fuel first main last x)).disk =
    (D.LRes.st (D.reduce cfg W d' orderOf fuel first main last x)).disk := by
  have h := D.reduce_schedule_irrelevant cfg W d d' orderOf fuel first main last hg x
  generalize D.reduce cfg W d orderOf fuel first main last x = r at h ⊢
  generalize D.reduce cfg W d' orderOf fuel first main last x = r' at h ⊢
  rcases r with ⟨a, n⟩ | ⟨e, a⟩ <;> rcases r' with ⟨b, m⟩ | ⟨e', b⟩ <;> simp only [D.SimR] at h
  · exact ⟨h.1.2.2.2, h.1.1⟩
  · exact ⟨h.2.2.2.2, h.2.1⟩

-- non-vacuity: a verdict vector satisfying WB with a non-first winner
example : WB (fun i => if i = 2 then Verdict.accept else if i < 2 then .ignore else .quit) := by
  constructor
  · intro i; split <;> (try split) <;> simp
  · intro i j hij h
    have hi : 2 < i := by
      by_cases h2 : i = 2
      · simp [h2] at h
      · by_cases h3 : i < 2
        · simp [h2, h3] at h
        · omega
    have : ¬ j = 2 := by omega
    have : ¬ j < 2 := by omega
    simp [*]

end Cvise.C02
