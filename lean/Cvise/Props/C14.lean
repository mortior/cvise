import Cvise.Gen.PassGroups
import Cvise.Gen.ClangDelta
import Cvise.Gen.Tools
import Cvise.Gen.Parts
/-!
# C14 — shipped schedules name only passes, arguments and tool behaviours that exist

All quantifiers are finite tables regenerated from the sources on every run (pass-group JSON, `self.arg` comparisons of
the Python passes, clang_delta registrations, clex's mode table, exit-code if-chains), so `decide +kernel` over the whole
table is a proof.
-/
namespace Cvise.C14
open Cvise Cvise.PG

def isPrefixL : List Char → List Char → Bool
  | [], _ => true
  | _ :: _, [] => false
  | a :: as, b :: bs => a = b && isPrefixL as bs

def natOfDigits : List Char → Option Nat
  | [] => none
  | l => l.foldl (fun acc c => match acc with
      | none => none
      | some n => if c.isDigit then some (10 * n + (c.toNat - 48)) else none) (some 0)

def isDecimal (s : String) : Bool := (natOfDigits s.toList).isSome

/-- does clex's `main` accept this mode string (exact names, or prefix + number inside the asserted range) -/
def clexAccepts (arg : String) : Bool :=
  Gen.clexExact.contains arg ||
  Gen.clexPrefix.any fun (p, lo, hi) =>
    isPrefixL p.toList arg.toList &&
      (match natOfDigits (arg.toList.drop p.toList.length) with
       | some n => decide (lo ≤ n) && decide (n ≤ hi)
       | none => false)

/-- is the (pass, arg) of a pass-group entry accepted by the implementation it names -/
def argOK (e : Entry) : Bool :=
  match e.pass? with
  | none => false
  | some p =>
    if p = "clang" then
      match e.arg with | some a => Gen.registrations.any (·.name = a) | none => false
    else if p = "clangbinarysearch" then
      match e.arg with | some a => Gen.registrations.any (fun r => r.name = a && r.multi) | none => false
    else if p = "clex" then
      match e.arg with | some a => clexAccepts a | none => false
    else if p = "lines" then
      match e.arg with | some a => a = "None" || isDecimal a | none => false
    else match Gen.pyArgs.lookup p with
      | some allowed => (match e.arg with | some a => allowed.contains a | none => false)
      | none => (Gen.known.passes.lookup p).isSome          -- passes that take no argument

/-- every entry of every shipped pass group names a pass and an argument the implementation accepts; clang_delta
    registers each named transformation, with multi-instance rewriting for those driven by binary search; clex
    implements each named mode within its asserted range -/
theorem groups_args_ok :
    Gen.shippedGroups.all (fun ng => ng.2.all (fun ce => ce.2.all argOK)) = true := by decide +kernel

/-- BalancedPass: the arguments its `if` chain compares with are exactly those for which a configuration was extracted -/
theorem balanced_args_consistent :
    (match Gen.pyArgs.lookup "balanced" with
     | some allowed => allowed.all (fun a => (Gen.balancedCfg.map (·.1)).contains a) &&
                       (Gen.balancedCfg.map (·.1)).all (fun a => allowed.contains a)
     | none => false) = true := by decide +kernel

def lookupExit (drv : String) (code : Nat) : Option String := (Gen.pyExit.lookup drv).bind (·.lookup code)

/-- exit codes: what the C side emits composed with what each Python driver makes of it.
    `(unsigned char)(-1) = 255`; the two clang drivers differ on code 1 (ErrorInvalidCounter) -/
theorem exit_protocol :
    Gen.cdDefaultError = some (-1) ∧ Gen.cdInvalidCounter = some 1 ∧
    lookupExit "clang" 0 = some "OK" ∧ lookupExit "clang" 1 = some "STOP" ∧ lookupExit "clang" 255 = some "STOP" ∧
    lookupExit "clangbinarysearch" 0 = some "OK" ∧ lookupExit "clangbinarysearch" 1 = some "ERROR" ∧
    lookupExit "clangbinarysearch" 255 = some "STOP" ∧
    lookupExit "clex" Gen.clexOK = some "OK" ∧ lookupExit "clex" Gen.clexSTOP = some "STOP" := by decide +kernel

theorem isPrefixL_append : ∀ (l m : List Char), isPrefixL l (l ++ m) = true
  | [], _ => by simp [isPrefixL]
  | a :: l, m => by simp [isPrefixL, isPrefixL_append l m]

/-- the instance-count message: the literal both C functions print is the literal both Python parsers look for -/
theorem count_message :
    Gen.cdStdoutMsg = "Available transformation instances: " ∧ Gen.cdStderrMsg = Gen.cdStdoutMsg ∧
    Gen.pyCountPattern.toList = Gen.cdStdoutMsg.toList ++ "([0-9]+)$".toList ∧
    isPrefixL Gen.pyCountStderrPrefix.toList Gen.cdStderrMsg.toList = true := by
  -- `String.toList` of a literal is dear for the kernel (it decodes the UTF-8 bytes); an equation between strings is not
  have h1 : Gen.pyCountPattern = Gen.cdStdoutMsg ++ "([0-9]+)$" := by decide +kernel
  have h2 : Gen.cdStderrMsg = Gen.pyCountStderrPrefix ++ " " := by decide +kernel
  exact ⟨rfl, rfl, by rw [h1, String.toList_append], by rw [h2, String.toList_append]; exact isPrefixL_append _ _⟩

end Cvise.C14
