import Cvise.Model.World
import Cvise.Gen.World
/-!
# C17 — misuse is refused cleanly with a readable C-Vise error (start-up validation and error rendering)
-/
namespace Cvise.C17
open Cvise Cvise.W

def GoodValidation (v : Validation) : Prop :=
  v.accessBeforeStat = true ∧ v.refusesDotDot = true ∧ v.unknownArgRenders = true ∧
  v.ternaryValidatesInNew = true ∧ v.indentValidatesInNew = true

/-- a test case is misused: missing, unreadable, unwritable, absolute, or leaving the directory -/
def Misused (t : TestCase) : Prop :=
  t.exists_ = false ∨ t.readable = false ∨ t.writable = false ∨ t.absolute = true ∨ t.dotdot = true

theorem checkCase_good (v : Validation) (h1 : v.accessBeforeStat = true) (h2 : v.refusesDotDot = true) (t : TestCase) :
    (checkCase v t = none ∧ ¬ Misused t) ∨ (∃ e, checkCase v t = some (.cvise e)) ∧ Misused t := by
  -- the guards of the `if` chain are the disjuncts of `Misused`, in order: follow the chain
  unfold checkCase Misused
  cases t.exists_
  · simp [h1]
  cases t.readable
  · simp
  cases t.writable
  · simp
  cases t.absolute <;> cases t.dotdot <;> simp [h2]

/-- with a good validation order, a misused test case anywhere in the list, or a test script that cannot be executed,
    ends construction in a C-Vise error — never in a foreign exception and never in success -/
theorem misuse_is_cvise_error (v : Validation) (hv : GoodValidation v) (cases : List TestCase) (script : String) (scriptOK : Bool)
    (h : (∃ t ∈ cases, Misused t) ∨ scriptOK = false) :
    ∃ e, construct v cases script scriptOK = .cvise e := by
  have hc := checkCase_good v hv.1 hv.2.1
  unfold construct
  cases hf : cases.findSome? (checkCase v) with
  | some r =>
    -- whatever `findSome?` returns is a result of `checkCase`, hence a C-Vise error
    obtain ⟨t, _, ht⟩ := List.exists_of_findSome?_eq_some hf
    rcases hc t with ⟨h0, _⟩ | ⟨⟨e, he⟩, _⟩
    · simp [h0] at ht
    · exact ⟨e, by simpa [he] using ht.symm⟩
  | none =>
    rcases h with ⟨t, ht, hm⟩ | hs
    · rcases hc t with ⟨_, h0⟩ | ⟨⟨e, he⟩, _⟩
      · exact absurd hm h0
      · simp [List.findSome?_eq_none_iff.mp hf t ht] at he
    · exact ⟨.invalidTest script, by simp [hs]⟩

/-- every error the model can produce can be printed … -/
theorem render_total (v : Validation) (hv : GoodValidation v) (e : CErr) : ∃ s, render v e = some s := by
  obtain ⟨_, _, h3, _, _⟩ := hv
  cases e <;> simp [render, h3]

def isInfixL : List Char → List Char → Bool
  | [], _ => true
  | _ :: _, [] => false
  | p, c :: cs => (p.isPrefixOf (c :: cs)) || isInfixL p cs

/-- … and the message names the offending item (path or argument): stated on the construction of the messages -/
theorem render_names_item (v : Validation) (hv : GoodValidation v) :
    (∀ p w, ∃ a b, render v (.invalidTestCase p w) = some (a ++ p ++ b)) ∧
    (∀ p, ∃ a b, render v (.absolutePath p) = some (a ++ p ++ b)) ∧
    (∀ p, ∃ a b, render v (.dotDotPath p) = some (a ++ p ++ b)) ∧
    (∀ p, ∃ a b, render v (.invalidTest p) = some (a ++ p ++ b)) ∧
    (∀ c x, ∃ a b, render v (.unknownArgument c x) = some (a ++ x ++ b)) := by
  obtain ⟨_, _, h3, _, _⟩ := hv
  refine ⟨fun p w => ⟨"The specified test case '", "' cannot be " ++ w ++ "!", by simp [render, String.append_assoc]⟩,
    fun p => ⟨"Test case path cannot be absolute: '", "'!", by simp [render]⟩,
    fun p => ⟨"Test case path cannot contain '..': '", "'!", by simp [render]⟩,
    fun p => ⟨"The specified interestingness test '", "' cannot be executed!", by simp [render]⟩,
    fun c x => ⟨"The argument '", "' is not valid for pass '" ++ c ++ "'!", by simp [render, h3, String.append_assoc]⟩⟩

/-- the code validates in that order (regenerated on every run) -/
theorem shipped_validation : GoodValidation Gen.validation := by unfold GoodValidation; decide

/-- the snapshot 6d25a67 did not (findings F2, F10, F11): a missing test case raised FileNotFoundError, a `..` path was
    accepted, and the unknown-argument error could not be printed -/
theorem old_validation_counterexamples :
    let old : Validation := { accessBeforeStat := false, refusesDotDot := false, unknownArgRenders := false,
                              ternaryValidatesInNew := false, indentValidatesInNew := false }
    construct old [{ path := "nosuch.c", exists_ := false, readable := false, writable := false, absolute := false, dotdot := false }] "t.sh" true
      = .foreign "FileNotFoundError" ∧
    construct old [{ path := "../x.c", exists_ := true, readable := true, writable := true, absolute := false, dotdot := true }] "t.sh" true = .ok ∧
    render old (.unknownArgument "BalancedPass" "bogus") = none := by decide +kernel

end Cvise.C17
