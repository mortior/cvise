import Cvise.Model.ClangDelta
import Cvise.Gen.ClangDelta
/-!
# C19 — every clang_delta transformation follows the counter protocol

Model: the order of protocol clauses in each `HandleTranslationUnit` body (`CD.Cl`, extracted from the sources on every
run) and `CD.run`, the effect of executing the clauses in order.  A rewriting clause is one that reaches `TheRewriter`
or `RewriteHelper` by name inside clang_delta's sources; the C++ of the transformations themselves is not modelled.
-/
namespace Cvise.C19
open Cvise Cvise.CD

/-- asking only for the number of instances never rewrites anything -/
theorem wf_query (sk : List Cl) (h : guardedBy isQ sk = true) (i : In) (hq : i.queryOnly = true) (o : Out)
    (ho : o.rewrote = false) : (run sk i o).rewrote = false := by
  induction sk generalizing o with
  | nil => simp [guardedBy] at h
  | cons k rest ih =>
    cases k with
    | q => simp [run, hq, ho]
    | c | w =>
      simp only [guardedBy, isQ] at h
      simp only [run]
      split
      · exact ho
      · exact ih (by simpa using h) o ho
    | r | x => simp [guardedBy, isQ] at h
    | n =>
      simp only [guardedBy, isQ] at h
      exact ih (by simpa using h) o ho

/-- a counter beyond the number of instances (without --warn-on-counter-out-of-bounds) ends in the out-of-range error
    with nothing rewritten — never in unchanged or partially rewritten output -/
theorem wf_range (sk : List Cl) (h : guardedBy isC sk = true) (i : In) (hq : i.queryOnly = false) (ht : i.tooBig = true)
    (hw : i.warn = false) (o : Out) (ho : o.rewrote = false) :
    (run sk i o).maxInstanceError = true ∧ (run sk i o).rewrote = false := by
  induction sk generalizing o with
  | nil => simp [guardedBy] at h
  | cons k rest ih =>
    cases k with
    | q =>
      simp only [guardedBy, isC] at h
      simp only [run, hq]
      exact ih (by simpa using h) o ho
    | c => simp [run, ht, ho]
    | w => simp [run, ht, hw, ho]
    | r | x => simp [guardedBy, isC] at h
    | n =>
      simp only [guardedBy, isC] at h
      exact ih (by simpa using h) o ho

/-- every registered transformation has an extracted body that is well-formed (the quantifier is the finite table of all
    registrations, regenerated from clang_delta/*.cpp on every run) -/
theorem all_wf : Gen.registrations.all (fun r => match r.skel with | some sk => wf sk | none => false) = true := by
  decide +kernel

/-- A number for a string.  String equality is dear for the kernel (both sides are UTF-8-encoded, then compared byte by
    byte through `UInt8` / `BitVec` / `Fin`); numerals are compared by GMP. -/
def strKey (s : String) : Nat := s.toByteArray.data.toList.foldl (fun n b => n * 256 + b.toNat) 0

/-- each transformation name is registered once: already the numbers of the names differ -/
theorem names_nodup : (Gen.registrations.map (·.name)).Nodup :=
  List.Pairwise.of_map (S := (· ≠ ·)) strKey (fun _ _ h e => h (e ▸ rfl))
    (by decide +kernel : ((Gen.registrations.map (·.name)).map strKey).Nodup)

/-- both protocol clauses, for every registered transformation -/
theorem protocol (r : Reg) (hr : r ∈ Gen.registrations) :
    ∃ sk, r.skel = some sk ∧
      (∀ i : In, i.queryOnly = true → (run sk i {}).rewrote = false) ∧
      (∀ i : In, i.queryOnly = false → i.tooBig = true → i.warn = false →
        (run sk i {}).maxInstanceError = true ∧ (run sk i {}).rewrote = false) := by
  have h := List.all_eq_true.mp all_wf r hr
  cases hs : r.skel with
  | none => simp [hs] at h
  | some sk =>
    simp only [hs] at h
    unfold wf at h
    simp only [Bool.and_eq_true] at h
    exact ⟨sk, rfl, fun i hq => wf_query sk h.1.1 i hq {} rfl, fun i hq ht hw => wf_range sk h.1.2 i hq ht hw {} rfl⟩

/-- the out-of-range error leaves the tool with `ErrorInvalidCounter` (regenerated: the constant, `Die` exiting with
    `ErrorCode`, `doTransformation` setting it for `TransMaxInstanceError`) -/
theorem exit_code_convention :
    Gen.cdInvalidCounter = some 1 ∧ Gen.cdDieUsesErrorCode = true ∧ Gen.cdInvalidCounterOnMaxInstance = true ∧
    Gen.cdMainReturnsZero = true := by decide

/-- the shared helper behind the `w` clauses really is warn-aware and refuses out-of-range counters and to-counters, and a
    pure query returns before the manager opens (creates / truncates) the output — both read off the sources on every run -/
theorem manager_conventions : Gen.cdCheckCounterValidityOk = true ∧ Gen.cdQueryReturnsBeforeOutput = true := by decide

-- non-vacuity
example : Gen.registrations.length = 73 := by decide
example : (run [.n, .q, .c, .n, .r, .n] { queryOnly := false, tooBig := false, warn := false } {}).rewrote = true := by decide
/-- why a silent return before the counter check is not well-formed: the out-of-range counter ends without the error -/
example : (run [.x, .q, .c, .r] { queryOnly := false, tooBig := true, warn := false, silent := true } {}).maxInstanceError = false := by decide
example : wf [.x, .q, .c, .r] = false := by decide

end Cvise.C19
