import Cvise.Proofs.BinaryGenEq
import Cvise.Proofs.BinaryMonotone
import Cvise.Proofs.BinaryNoSingle
import Cvise.Proofs.BinaryTerm
import Cvise.Proofs.BinaryVariants
import Cvise.Proofs.GcdaBytes
/-!
# C06 — delta-debugging passes are complete

Model: `Cvise.BS` (the chunk cursor of `cvise/passes/abstract.py`), `Cvise.step`/`run`/`start`
(the one-candidate-at-a-time loop over a list of instances, the candidate being the list with
`[index, end)` cut out).  The theorems quantify over every instance list, every test
`List α → Bool` (= every verdict sequence), and every fuel.
-/
namespace Cvise.C06
variable {α : Type}

/-- the cursor invariant holds initially … -/
theorem init_inv (l : List α) (h : l.length ≠ 0) :
    (⟨l, ⟨0, l.length, l.length⟩⟩ : St α).Inv := St.fresh_inv h

/-- … and is preserved by every step, whatever the verdict -/
theorem step_preserves_inv (test : List α → Bool) (x y : St α) (h : x.Inv) (hs : step test x = .inl y) : y.Inv :=
  step_inv test x y h hs

/-- accepted removals never cause instances to be visited out of range:
    every requested range `[index, end)` is non-empty and inside the current instance list -/
theorem visit_in_range (x : St α) (h : x.Inv) :
    x.st.index < x.st.end_ ∧ x.st.end_ ≤ x.items.length ∧ x.st.instances = x.items.length :=
  ⟨h.2.index_lt_end, h.1 ▸ x.st.end_le, h.1⟩

/-- the chunk size only ever changes by halving, and each new granularity starts at index 0 -/
theorem granularity_halves (test : List α → Bool) (x y : St α) (h : x.Inv) (hs : step test x = .inl y) :
    (y.st.chunk = x.st.chunk ∧ x.st.index ≤ y.st.index) ∨ (y.st.chunk = x.st.chunk / 2 ∧ y.st.index = 0) := by
  refine Sum.elim_of_inl (Q := fun _ => True)
    (P := fun y => (y.st.chunk = x.st.chunk ∧ x.st.index ≤ y.st.index) ∨ (y.st.chunk = x.st.chunk / 2 ∧ y.st.index = 0)) ?_ hs
  rw [step_eq]
  split
  · exact x.accept_elim h (fun _ _ _ hc => hc.imp (fun h => ⟨h.1, Nat.le_of_eq h.2.symm⟩) (fun h => ⟨h.1, h.2.1⟩))
      (fun _ => trivial)
  · exact x.reject_elim h (fun _ _ _ hc => hc.imp (fun h => ⟨h.1, Nat.le.intro h.2.symm⟩) (fun h => ⟨h.1, h.2.1⟩))
      (fun _ _ => trivial)

/-- a run only finishes at granularity 1 (single instances), or because nothing is left -/
theorem finishes_at_single (test : List α → Bool) (x : St α) (r : List α) (h : x.Inv)
    (hs : step test x = .inr r) : x.st.chunk = 1 ∨ r = [] := by
  refine Sum.elim_of_inr (P := fun _ => True) (Q := fun r => x.st.chunk = 1 ∨ r = []) ?_ hs
  rw [step_eq]
  split
  · exact x.accept_elim h (fun _ _ _ _ => trivial) (fun h => h.symm.imp (·.1) List.eq_nil_of_length_eq_zero)
  · exact x.reject_elim h (fun _ _ _ _ => trivial) (fun h _ => .inl h)

/-- a completed run always exists (bounded by `2n²+4n+1` candidates): C03 for these passes -/
theorem completes (test : List α → Bool) (l : List α) :
    ∃ r, start test (startFuel l.length) l = some r := start_completes test l

/-- if the completed run accepted nothing (every accept strictly shortens, so this is
    `r.length = l.length`), then no single instance can be removed -/
theorem no_accept_no_single (test : List α → Bool) (l : List α) (fuel : Nat) (r : List α)
    (h : start test fuel l = some r) (hlen : r.length = l.length) :
    ∀ j, j < l.length → test (l.eraseIdx j) = false :=
  Cvise.no_accept_no_single test l fuel r h hlen

/-- monotone test (interesting iff a required subset `R` is retained): the result is exactly `R` -/
theorem monotone_exact [DecidableEq α] (items R : List α) (hn : items.Nodup) (hR : ∀ r ∈ R, r ∈ items)
    (fuel : Nat) (r : List α) (h : start (reqTest R) fuel items = some r) :
    r = items.filter (fun a => decide (a ∈ R)) :=
  Cvise.monotone_exact items R hn hR fuel r h

/-- the two previous theorems are not vacuous: a completed run exists for every input -/
theorem monotone_exact_total [DecidableEq α] (items R : List α) (hn : items.Nodup) (hR : ∀ r ∈ R, r ∈ items) :
    start (reqTest R) (startFuel items.length) items = some (items.filter (fun a => decide (a ∈ R))) := by
  obtain ⟨r, hr⟩ := start_completes (reqTest R) items
  rw [hr, Cvise.monotone_exact items R hn hR _ r hr]

-- non-vacuity: a concrete run with accepts and rejects
example : start (reqTest [1, 3]) (startFuel 5) [0, 1, 2, 3, 4] = some [1, 3] := by decide

/-! ## gcda: `advance_on_success` restarts the search on what is left (`Model/BinaryVariants.lean`) -/

/-- every state of a gcda run satisfies the cursor invariant (and the chunk never exceeds what is left) … -/
theorem gcda_invariant (test : List α → Bool) (l : List α) (h : l.length ≠ 0) :
    (⟨l, ⟨0, l.length, l.length⟩⟩ : St α).GInv ∧
    ∀ x y : St α, x.GInv → gcdaStep test x = .inl y → y.GInv :=
  ⟨fresh_GInv l h, fun _ _ hx hs => (Sum.elim_of_inl (gcdaStep_dec test hx) hs).1⟩

/-- … hence every requested range is non-empty and inside the current instance list -/
theorem gcda_visit_in_range (x : St α) (h : x.GInv) :
    x.st.index < x.st.end_ ∧ x.st.end_ ≤ x.items.length ∧ x.st.instances = x.items.length :=
  visit_in_range x h.1

/-- a gcda run ends only at granularity 1, or because nothing is left -/
theorem gcda_finishes_at_single (test : List α → Bool) (x : St α) (r : List α) (h : x.GInv)
    (hs : gcdaStep test x = .inr r) : x.st.chunk = 1 ∨ r = [] := by
  refine Sum.elim_of_inr (P := fun _ => True) (Q := fun r => x.st.chunk = 1 ∨ r = []) ?_ hs
  rw [gcdaStep_eq]
  split
  · split
    · exact .inr (List.eq_nil_of_length_eq_zero ‹_›)
    · trivial
  · exact x.reject_elim h.1 (fun _ _ _ _ => trivial) (fun h _ => .inl h)

/-- a completed gcda run always exists (C03 for this pass: at most `(n+1)·(2n²+4n+1)+1` candidates) -/
theorem gcda_completes (test : List α → Bool) (l : List α) :
    ∃ r, gcdaStart test (gcdaFuel l.length) l = some r := gcdaStart_completes test l

theorem gcda_no_accept_no_single (test : List α → Bool) (l : List α) (fuel : Nat) (r : List α)
    (h : gcdaStart test fuel l = some r) (hlen : r.length = l.length) :
    ∀ j, j < l.length → test (l.eraseIdx j) = false :=
  Cvise.gcda_no_accept_no_single test l fuel r h hlen

theorem gcda_monotone_exact [DecidableEq α] (items R : List α) (hn : items.Nodup) (hR : ∀ r ∈ R, r ∈ items)
    (fuel : Nat) (r : List α) (h : gcdaStart (reqTest R) fuel items = some r) :
    r = items.filter (fun a => decide (a ∈ R)) :=
  Cvise.gcda_monotone_exact items R hn hR fuel r h

theorem gcda_monotone_exact_total [DecidableEq α] (items R : List α) (hn : items.Nodup) (hR : ∀ r ∈ R, r ∈ items) :
    gcdaStart (reqTest R) (gcdaFuel items.length) items = some (items.filter (fun a => decide (a ∈ R))) := by
  obtain ⟨r, hr⟩ := gcdaStart_completes (reqTest R) items
  rw [hr, Cvise.gcda_monotone_exact items R hn hR _ r hr]

/-- the traced run the model driver prints is this run -/
theorem gcda_trace_is_run (test : List α → Bool) (fuel : Nat) (l : List α) :
    (gcdaStartTrace test fuel l).map (·.1) = gcdaStart test fuel l := by
  unfold gcdaStartTrace gcdaStart
  split
  · rfl
  · rw [gcdaRun_eq_iter]
    refine trace_fst (obs := fun x => (x.st.index, x.st.end_, test x.cand)) (fun _ _ => rfl) (fun n x a => ?_) ..
    rw [gcdaRunTrace]
    cases gcdaStep test x <;> rfl

example : gcdaStart (reqTest [1, 3]) (gcdaFuel 5) [0, 1, 2, 3, 4] = some [1, 3] := by decide

/-- the gcda pass works on bytes (`data[0 : functions[index]] + data[functions[end] :]`); with the function offsets in ascending
    order that candidate *is* the item-level candidate of the run model: the header followed by the records `cut` leaves -/
theorem gcda_bytes_are_items (data offs : List Nat) (i e : Nat) (h : Ascending offs) (hi : i < e) (he : e ≤ offs.length) :
    gcdaBytes data offs i e = data.take (offs.getD 0 0) ++ (cut (gcdaRecs data offs) i e).flatten := by
  have hn : 0 < offs.length := by omega
  have hil : i < offs.length := by omega
  unfold gcdaBytes cut
  rw [List.flatten_append, ← List.append_assoc]
  have h0 : offs.getD 0 0 = offs[0] := by simp [List.getD, hn]
  have h1 : offs.getD i 0 = offs[i] := by simp [List.getD, hil]
  rw [h0, h1, gcdaRecs_take data offs i hil hn h]
  congr 1
  by_cases hlt : e < offs.length
  · have h2 : offs.getD e 0 = offs[e] := by simp [List.getD, hlt]
    simp only [hlt, if_true, h2]
    exact (gcdaRecs_drop data offs e hlt h).symm
  · simp only [hlt, if_false]
    rw [List.drop_of_length_le (by rw [gcdaRecs_length]; omega)]
    rfl

example : gcdaBytes [9, 9, 1, 1, 2, 3, 3, 3] [2, 4, 5] 1 2 = [9, 9, 1, 1, 3, 3, 3] ∧
    gcdaRecs [9, 9, 1, 1, 2, 3, 3, 3] [2, 4, 5] = [[1, 1], [2], [3, 3, 3]] := by decide

/-! ## ifs: the cursor carries the value the directives are replaced with; the test may depend on it -/

theorem ifs_invariant (test : List α → Bool → Bool) (x y : IfSt α) (h : x.base.Inv)
    (hs : ifsStep test x = .inl y) : y.base.Inv := (Sum.elim_of_inl (ifsStep_dec test h) hs).1

theorem ifs_visit_in_range (x : IfSt α) (h : x.base.Inv) :
    x.base.st.index < x.base.st.end_ ∧ x.base.st.end_ ≤ x.base.items.length ∧
    x.base.st.instances = x.base.items.length := visit_in_range x.base h

/-- a completed ifs run always exists (at most `2·(2n²+4n+1)+2` candidates) -/
theorem ifs_completes (test : List α → Bool → Bool) (l : List α) :
    ∃ r, ifsStart test (ifsFuel l.length) l = some r := ifsStart_completes test l

/-- nothing accepted ⇒ no single `#if` can be resolved, neither to 0 nor to 1 (any test, value-sensitive or not);
    an accepted candidate never leaves the *value* behind in a state that skips one: only the all-reject run is claimed
    here, see `ifs_sticky_value` for what happens after an accept -/
theorem ifs_no_accept_no_single (test : List α → Bool → Bool) (l : List α) (fuel : Nat) (r : List α)
    (h : ifsStart test fuel l = some r) (hlen : r.length = l.length) :
    ∀ j, j < l.length → ∀ v, test (l.eraseIdx j) v = false :=
  Cvise.ifs_no_accept_no_single test l fuel r h hlen

/-- monotone test (interesting iff the required directives are retained, whatever the value): exactly the required subset -/
theorem ifs_monotone_exact [DecidableEq α] (items R : List α) (hn : items.Nodup) (hR : ∀ r ∈ R, r ∈ items)
    (fuel : Nat) (r : List α) (h : ifsStart (fun l _ => reqTest R l) fuel items = some r) :
    r = items.filter (fun a => decide (a ∈ R)) :=
  Cvise.ifs_monotone_exact items R hn hR fuel r h

theorem ifs_monotone_exact_total [DecidableEq α] (items R : List α) (hn : items.Nodup) (hR : ∀ r ∈ R, r ∈ items) :
    ifsStart (fun l _ => reqTest R l) (ifsFuel items.length) items = some (items.filter (fun a => decide (a ∈ R))) := by
  obtain ⟨r, hr⟩ := ifsStart_completes (fun l _ => reqTest R l) items
  rw [hr, Cvise.ifs_monotone_exact items R hn hR _ r hr]

theorem ifs_trace_is_run (test : List α → Bool → Bool) (fuel : Nat) (l : List α) :
    (ifsStartTrace test fuel l).map (·.1) = ifsStart test fuel l := by
  unfold ifsStartTrace ifsStart
  split
  · rfl
  · rw [ifsRun_eq_iter]
    refine trace_fst (obs := fun x => (x.base.st.index, x.base.st.end_, x.value, test x.base.cand x.value)) (fun _ _ => rfl)
      (fun n x a => ?_) ..
    rw [ifsRunTrace]
    cases ifsStep test x <;> rfl

/-- what the property does *not* promise, and the code does not deliver (observed by a sub-agent, DESIGN 10.6): with a
    value-sensitive test the value stays 1 across an accepted removal, so `#if 0` is never tried for the instance that
    slides into the range.  Three directives; 0 resolvable only to 1, 1 only to 0, 2 not at all: the run ends with
    directive 1 still there although resolving it to 0 alone is interesting. -/
def stickyTest (l : List Nat) (v : Bool) : Bool :=
  l.contains 2 && ((!l.contains 0 && l.contains 1 && v) || (l.contains 0 && !l.contains 1 && !v) || (!l.contains 0 && !l.contains 1 && !v) )

theorem ifs_sticky_value :
    ifsStart stickyTest (ifsFuel 3) [0, 1, 2] = some [1, 2] ∧ stickyTest ([1, 2].eraseIdx 0) false = true := by decide

example : ifsStart (fun l _ => reqTest [1, 3] l) (ifsFuel 5) [0, 1, 2, 3, 4] = some [1, 3] := by decide

end Cvise.C06
