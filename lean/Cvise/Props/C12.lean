import Cvise.Proofs.Matcher
import Cvise.Proofs.RxContract
/-!
# C12 — delimiter matching returns exactly the leftmost genuinely balanced match

Model: `Cvise.M` (`nestedmatcher.py`).  `Bal o c s a b` is the declarative "opens at `a`, closes at the same nesting
depth at `b`"; `SeqMatch rx s parts a e spans` is "the parts match back to back from `a` to `e`".
All theorems hold for every string, every position (including negative and out-of-range ones) and every part list.
The definitions are total functions without fuel (Lean accepted their termination: the start position strictly
increases), which is the "never raises or loops" clause.
-/
namespace Cvise.C12
open Cvise Cvise.M

/-- the depth-counter scan finds exactly the closing position -/
theorem scan_iff (o c : Char) (xs : List Char) (d k : Nat) (hd : 0 < d) :
    scan o c xs d = some k ↔ ClosesAt o c xs d k := M.scan_iff o c xs d k hd

theorem closing_unique (o c : Char) (xs : List Char) (d k k' : Nat)
    (h : ClosesAt o c xs d k) (h' : ClosesAt o c xs d k') : k = k' := closesAt_unique o c xs d k k' h h'

/-- a balanced part matched at `a` reports a span iff it is genuinely balanced -/
theorem helper_iff (o c : Char) (s : List Char) (a : Nat) (m : Span) :
    matchAt o c s a = some m ↔ m.1 = a ∧ Bal o c s a m.2 := matchAt_iff o c s a m

/-- searching a balanced part: sound and leftmost -/
theorem bal_search_leftmost (o c : Char) (s : List Char) (p : Nat) (m : Span) (h : balSearch o c s p = some m) :
    p ≤ m.1 ∧ Bal o c s m.1 m.2 ∧ ∀ a, p ≤ a → a < m.1 → ∀ b, ¬ Bal o c s a b :=
  have ⟨h1, h2, h3⟩ := (balSearch_first o c s p 0).some h
  ⟨h1, h2.2, fun a ha hb b hB => h3 a ha hb (a, b) ⟨rfl, hB⟩⟩

/-- … and `none` only if no balanced group starts at or after `p` -/
theorem bal_search_none (o c : Char) (s : List Char) (p : Nat) (h : balSearch o c s p = none) :
    ∀ a, p ≤ a → ∀ b, ¬ Bal o c s a b :=
  fun a ha b hB => (balSearch_first o c s p (a + 1)).none h a ha (Nat.lt_succ_self a) (a, b) ⟨rfl, hB⟩

/-- `search(parts, s, pos)` (search mode): the reported span really matches the part sequence, starts at or after
    `pos`, and no earlier start in `[pos, a)` matches -/
theorem search_leftmost (rx : RxO) (hc : RxContract rx) (parts : List Pat) (s : List Char) (pos : Int)
    (a e : Nat) (sp : List Span) (h : search rx parts s pos true = some ((a, e), sp)) :
    0 ≤ pos ∧ pos ≤ a ∧ SeqMatch rx s parts a e sp ∧
    ∀ a' : Nat, pos ≤ a' → a' < a → ∀ e' sp', ¬ SeqMatch rx s parts a' e' sp' := by
  obtain ⟨hn, _⟩ | ⟨first, rest, rfl, h0, _, he⟩ := search_eq rx parts s pos true
  · cases hn.symm.trans h
  · obtain ⟨(j1 : pos.toNat ≤ a), j2, j3⟩ :=
      (searchLoop_first rx hc first rest s true _ (matchPat_true_first rx hc first s) pos.toNat).some (he.symm.trans h)
    exact ⟨h0, by omega, j2, fun a' h1 h2 e' sp' => j3 a' (by omega) h2 ((a', e'), sp')⟩

/-- `none` is reported only if the list is empty, the position is outside the string, or no start in `[pos, |s|)` matches -/
theorem search_none (rx : RxO) (hc : RxContract rx) (parts : List Pat) (s : List Char) (pos : Int)
    (h : search rx parts s pos true = none) :
    parts = [] ∨ pos < 0 ∨ pos ≥ s.length ∨
    ∀ a' : Nat, pos ≤ a' → a' < s.length → ∀ e' sp', ¬ SeqMatch rx s parts a' e' sp' := by
  obtain ⟨_, h | h | h⟩ | ⟨first, rest, rfl, h0, _, he⟩ := search_eq rx parts s pos true
  · exact .inl h
  · exact .inr (.inl h)
  · exact .inr (.inr (.inl h))
  · have j := (searchLoop_first rx hc first rest s true _ (matchPat_true_first rx hc first s) pos.toNat).none (he.symm.trans h)
    exact .inr (.inr (.inr fun a' h1 h2 e' sp' => j a' (by omega) (by omega) ((a', e'), sp')))

/-- non-search mode (used by peep): the first part is matched position by position; the result is sound and no
    start passed over matches the sequence -/
theorem search_nonsearch (rx : RxO) (hc : RxContract rx) (parts : List Pat) (s : List Char) (pos : Int)
    (a e : Nat) (sp : List Span) (h : search rx parts s pos false = some ((a, e), sp)) :
    pos ≤ a ∧ SeqMatch rx s parts a e sp ∧
    ∀ a' : Nat, pos ≤ a' → a' < a → ∀ e' sp', ¬ SeqMatch rx s parts a' e' sp' := by
  obtain ⟨hn, _⟩ | ⟨first, rest, rfl, h0, _, he⟩ := search_eq rx parts s pos false
  · cases hn.symm.trans h
  · obtain ⟨(j1 : pos.toNat ≤ a), j2, j3⟩ :=
      (searchLoop_first rx hc first rest s false _ (matchPat_false_first rx hc first s) pos.toNat).some (he.symm.trans h)
    exact ⟨by omega, j2, fun a' h1 h2 e' sp' => j3 a' (by omega) h2 ((a', e'), sp')⟩

/-- the engine-backed oracle the executable model uses satisfies the contract: the three theorems above hold for it
    without hypotheses -/
theorem search_leftmost_engine (tbl : Array Rx) (parts : List Pat) (s : List Char) (pos : Int)
    (a e : Nat) (sp : List Span) (h : search (rxOracle tbl) parts s pos true = some ((a, e), sp)) :
    0 ≤ pos ∧ pos ≤ a ∧ SeqMatch (rxOracle tbl) s parts a e sp ∧
    ∀ a' : Nat, pos ≤ a' → a' < a → ∀ e' sp', ¬ SeqMatch (rxOracle tbl) s parts a' e' sp' :=
  search_leftmost _ (rxOracle_contract tbl) parts s pos a e sp h

/-- `find` without prefix (balanced pass): exactly the leftmost balanced group at or after `pos` -/
theorem find_leftmost (rx : RxO) (hc : RxContract rx) (o c : Char) (s : List Char) (pos : Int) (a b : Nat)
    (h : find rx o c none s pos = some (a, b)) :
    pos ≤ a ∧ Bal o c s a b ∧ ∀ a' : Nat, pos ≤ a' → a' < a → ∀ b', ¬ Bal o c s a' b' := by
  unfold find at h
  rw [Option.map_eq_some_iff] at h
  obtain ⟨⟨⟨a0, e0⟩, sp⟩, hs, heq⟩ := h
  cases heq
  obtain ⟨_, j1, j2, j3⟩ := search_leftmost rx hc _ s pos a b sp hs
  refine ⟨j1, ?_, fun a' h1 h2 b' hb => j3 a' h1 h2 b' _ (.cons (m := (a', b')) ⟨rfl, hb⟩ (.nil _))⟩
  cases j2 with
  | cons h1 h2 => cases h2; exact h1.2

/-- `find … = none` only if no balanced group starts in `[pos, |s|)` -/
theorem find_none (rx : RxO) (hc : RxContract rx) (o c : Char) (s : List Char) (pos : Int)
    (h : find rx o c none s pos = none) (h0 : 0 ≤ pos) :
    ∀ a' : Nat, pos ≤ a' → ∀ b', ¬ Bal o c s a' b' := by
  unfold find at h
  rw [Option.map_eq_none_iff] at h
  intro a' h1 b' hb
  have hlt := hb.1
  rcases search_none rx hc _ s pos h with h | h | h | h
  · cases h
  · omega
  · omega
  · exact h a' h1 hlt b' _ (.cons (m := (a', b')) ⟨rfl, hb⟩ (.nil _))

-- non-vacuity: a genuinely balanced group that does not start at 0, and an opener that never closes
example : Bal '(' ')' "a((b) (c)".toList 2 5 := ((helper_iff '(' ')' _ 2 (2, 5)).mp (by decide)).2
example : ¬ ∃ b, Bal '(' ')' "((".toList 0 b := fun ⟨b, h⟩ =>
  nomatch (show matchAt '(' ')' "((".toList 0 = none by decide).symm.trans ((helper_iff _ _ _ 0 (0, b)).mpr ⟨rfl, h⟩)

end Cvise.C12
