import Cvise.Proofs.PassGroup
import Cvise.Gen.PassGroups
/-!
# C13 — pass-group selection follows the documented include/exclude/flag rules

`PG.parse eager K opts g` models `CVise.parse_pass_group_dict` (`eager`: names and option lists of *every* entry are
validated before the filter is applied).  `selSpec` is the documented rule read off the property text.
-/
namespace Cvise.C13
open Cvise Cvise.PG

/-- an accepted dictionary yields, per category and in file order, exactly the selected entries, each with class,
    argument and max-transforms (both parser variants) -/
theorem parse_eq_spec (eager : Bool) (K : Known) (o : Opts) (g : Group) (s : List (String × List Sel))
    (h : parse eager K o g = .ok s) :
    s = categories.map (fun cat => (cat, ((g.lookup cat).getD []).filterMap (selSpec K o))) ∧
    ∀ cat ∈ categories, (g.lookup cat).isSome := PG.parse_eq_spec eager K o g s h

/-- a missing category, an entry without or with an unknown pass, or an unknown option anywhere is rejected with a
    C-Vise error under every option combination -/
theorem parse_rejects (K : Known) (o : Opts) (g : Group)
    (h : ∃ cat ∈ categories, g.lookup cat = none ∨ ∃ es, g.lookup cat = some es ∧ ∃ e ∈ es, Malformed K e) :
    ∃ x, parse true K o g = .error x := PG.parse_rejects K o g h

/-- the parser that validates only what the filter lets through accepts an unknown pass hidden behind `include`
    (finding F6) -/
theorem lazy_counterexample : parse false f6K f6O f6G = .ok [("first", []), ("main", []), ("last", [])] := by rfl

/-- well-formed dictionaries are accepted under every option combination -/
theorem parse_total (eager : Bool) (K : Known) (o : Opts) (g : Group) (h : groupOK K g = true) :
    ∃ s, parse eager K o g = .ok s := PG.parse_total eager K o g h

/-- the four shipped groups (regenerated from the JSON files on every run) are well-formed … -/
theorem shipped_wellformed : Gen.shippedGroups.all (fun ng => groupOK Gen.known ng.2) = true := by decide +kernel

/-- … hence under every combination of slow / windows / not-c / renaming / remove-pass they parse, and the schedule is
    exactly the documented selection -/
theorem shipped (name : String) (g : Group) (hg : (name, g) ∈ Gen.shippedGroups) (o : Opts) :
    parse true Gen.known o g =
      .ok (categories.map (fun cat => (cat, ((g.lookup cat).getD []).filterMap (selSpec Gen.known o)))) := by
  have hok : groupOK Gen.known g = true := List.all_eq_true.mp shipped_wellformed (name, g) hg
  obtain ⟨s, hs⟩ := PG.parse_total true Gen.known o g hok
  rw [hs, (PG.parse_eq_spec true Gen.known o g s hs).1]

/-- the shipped parser validates before it filters (regenerated from `parse_pass_group_dict` on every run), so
    `parse_rejects` is about the code as it is -/
theorem shipped_eager : Gen.parseEager = true := by decide

-- non-vacuity: an entry is filtered and one is kept
example : (categories.map (fun cat => (cat, (((Gen.group_binary).lookup cat).getD []).filterMap
    (selSpec Gen.known { active := [], removed := [], notC := false, ren := false })))).length = 3 := by decide

end Cvise.C13
