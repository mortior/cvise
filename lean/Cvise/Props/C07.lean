import Cvise.Proofs.PassesC07
import Cvise.Proofs.PassesLines
import Cvise.Proofs.BinaryNoSingle
import Cvise.Proofs.PassesBalOffers
import Cvise.Proofs.PassesTernTerm
import Cvise.Proofs.PassesComments
import Cvise.Proofs.PassesIntsTerm
/-!
# C07 — candidates are genuine, local edits of the current file

Over the pass models `Cvise.P.*` (tied to `cvise/passes/*.py` by the K-pass correspondence; regexes, part lists and
recipes are the regenerated ones).  Text is decoded text (`List Char`); the bytes ↔ text step is finding F8.
-/
namespace Cvise.C07
open Cvise Cvise.P Cvise.M Cvise.D

/-! every candidate reported as produced differs from the input -/
theorem ok_differs_balanced (cfg : BalCfg) (s : Text) (st : Span) (out : Text) (st' : Span)
    (h : (balanced cfg).transform s st = (.ok, out, st')) : out ≠ s := (balLoop_ok cfg s _ st out st' h).2.1
theorem ok_differs_ternary (arg : String) (s : Text) (st : TernSt) (out : Text) (st' : TernSt)
    (h : (ternary arg).transform s st = (.ok, out, st')) : out ≠ s := (ternLoop_ok arg s _ st out st' h).2.1
theorem ok_differs_comments (s : Text) (st : Nat) (out : Text) (st' : Nat)
    (h : comments.transform s st = (.ok, out, st')) : out ≠ s := (P.comments_candidate s _ st out st' h).2
theorem ok_differs_peep (arg : String) (s : Text) (st : PeepSt) (out : Text) (st' : PeepSt)
    (h : (peep arg).transform s st = (.ok, out, st')) : out ≠ s := by
  have := peepTransform_okSplice arg s st
  rw [show peepTransform arg s st = _ from h] at this
  exact (this rfl).1

/-! The cursor of `ints` and `special` carries the modifications `finditer` found in the text it was made for; `new`,
`advance_on_success` and `advance` only produce such cursors (`mods_cursor_wellformed`).  For a cursor made for `s`: -/

/-- the passes the generated tables define for the shipped arguments are the `finditer` passes over these entries -/
theorem ints_special_passes :
    intsPass "a" = some (modPass (intsEntry "a").1 (intsEntry "a").2) ∧ intsPass "b" = some (modPass (intsEntry "b").1 (intsEntry "b").2) ∧
    intsPass "c" = some (modPass (intsEntry "c").1 (intsEntry "c").2) ∧ intsPass "d" = some (modPass (intsEntry "d").1 (intsEntry "d").2) ∧
    specialPass "a" = some (modPass (specialEntry "a").1 (specialEntry "a").2) ∧
    specialPass "b" = some (modPass (specialEntry "b").1 (specialEntry "b").2) ∧
    specialPass "c" = some (modPass (specialEntry "c").1 (specialEntry "c").2) := ⟨rfl, rfl, rfl, rfl, rfl, rfl, rfl⟩

/-- the cursors `new` / `advance_on_success` create are made for the text they are given; `advance` keeps the list -/
theorem mods_cursor_wellformed (id : Nat) (rec : List RPiece) (s : Text) (st st' : ModSt) :
    ((modPass id rec).new s = some st → st.mods = modsOf id rec s) ∧
    ((modPass id rec).aos s st' = some st → st.mods = modsOf id rec s) ∧
    ((modPass id rec).advance s st' = some st → st.mods = st'.mods) := by
  refine ⟨fun h => (modNew_inv id rec s st h).1, fun h => (modNew_inv id rec s st h).1, fun h => ?_⟩
  rw [(modPass_advance_eq_some h).1]

/-- **ints a, b, c, d: every OK candidate differs from the input** (a, b, c: it is strictly shorter — one digit, the
    prefix `0`/`0x`, the suffix letters are gone; d: the decimal rendering of `0x…` has another length or a digit where the
    `x` stood).  For every text and every cursor made for it. -/
theorem ok_differs_ints (arg : String) (harg : arg = "a" ∨ arg = "b" ∨ arg = "c" ∨ arg = "d") (s : Text) (st : ModSt)
    (hst : st.mods = modsOf (intsEntry arg).1 (intsEntry arg).2 s) (out : Text) (st' : ModSt)
    (h : (modPass (intsEntry arg).1 (intsEntry arg).2).transform s st = (.ok, out, st')) : out ≠ s := by
  obtain ⟨m, hm, rfl⟩ := modPass_ok _ _ s st hst out st' h
  rcases harg with ha | ha | ha | rfl
  · exact ne_of_length_lt (ints_abc_shorten arg (Or.inl ha) s m hm)
  · exact ne_of_length_lt (ints_abc_shorten arg (Or.inr (Or.inl ha)) s m hm)
  · exact ne_of_length_lt (ints_abc_shorten arg (Or.inr (Or.inr ha)) s m hm)
  · exact ints_d_candidates_differ s m hm

/-- **special a, b, c: every OK candidate differs from the input** (a: `transparent_crc(…)` → `printf(…)` changes the
    first character of the match; b, c: the non-empty match `extern 'C'` / `extern 'C++'` is deleted) -/
theorem ok_differs_special (arg : String) (harg : arg = "a" ∨ arg = "b" ∨ arg = "c") (s : Text) (st : ModSt)
    (hst : st.mods = modsOf (specialEntry arg).1 (specialEntry arg).2 s) (out : Text) (st' : ModSt)
    (h : (modPass (specialEntry arg).1 (specialEntry arg).2).transform s st = (.ok, out, st')) : out ≠ s := by
  obtain ⟨m, hm, rfl⟩ := modPass_ok _ _ s st hst out st' h
  rcases harg with rfl | ha | ha
  · exact special_a_candidates_differ s m hm
  · exact ne_of_length_lt (special_bc_shorten arg (Or.inl ha) s m hm)
  · exact ne_of_length_lt (special_bc_shorten arg (Or.inr ha) s m hm)

/-- ints a, b, c and special b, c only delete: the candidate is strictly shorter -/
theorem ints_special_deleting_shorter (s : Text) :
    (∀ arg, (arg = "a" ∨ arg = "b" ∨ arg = "c") → ∀ m ∈ modsOf (intsEntry arg).1 (intsEntry arg).2 s,
      (s.take m.1.1 ++ m.2 ++ s.drop m.1.2).length < s.length) ∧
    (∀ arg, (arg = "b" ∨ arg = "c") → ∀ m ∈ modsOf (specialEntry arg).1 (specialEntry arg).2 s,
      (s.take m.1.1 ++ m.2 ++ s.drop m.1.2).length < s.length) :=
  ⟨fun arg harg => ints_abc_shorten arg harg s, fun arg harg => special_bc_shorten arg harg s⟩

/-- the hypotheses are about the regenerated regexes: they have the shapes the theorems need (that such regexes match at
    all is what the K-pass correspondence runs show: the engine is defined by well-founded recursion, which the kernel does
    not evaluate) -/
example : shapeA (rxTbl (intsEntry "a").1) ∧ shapeB (rxTbl (intsEntry "b").1) ∧ shapeC (rxTbl (intsEntry "c").1) ∧ shapeD (rxTbl (intsEntry "d").1) :=
  ⟨ints_a_shape.2, ints_b_shape.2, ints_c_shape.2, ints_d_shape.2⟩

/-! text outside the matched region is preserved: the candidate is `input[:a] ++ mid ++ input[b:]` -/
theorem local_ints_special (id : Nat) (rec : List RPiece) (s : Text) (st : ModSt) (out : Text) (st' : ModSt)
    (h : (modPass id rec).transform s st = (.ok, out, st')) :
    ∃ a e r, st.mods[st.index]? = some ((a, e), r) ∧ LocalEdit s out a e r :=
  let ⟨a, e, r, h1, h2, _⟩ := modPass_transform_ok h
  ⟨a, e, r, h1, h2⟩
theorem local_ternary (arg : String) (s : Text) (st : TernSt) (out : Text) (st' : TernSt)
    (h : (ternary arg).transform s st = (.ok, out, st')) :
    ∃ a b mid, LocalEdit s out a b mid ∧ ∃ k1 k2, mid = (s.take k2).drop k1 :=
  ⟨_, _, _, (ternLoop_ok arg s _ st out st' h).1, _, _, rfl⟩
theorem local_peep (arg : String) (s : Text) (st : PeepSt) (out : Text) (st' : PeepSt)
    (h : (peep arg).transform s st = (.ok, out, st')) : ∃ a b mid, LocalEdit s out a b mid := by
  have := peepTransform_okSplice arg s st
  rw [show peepTransform arg s st = _ from h] at this
  exact (this rfl).2
/-- balanced: the middle is the recipe's fixed string ("" for the deleting arguments, "0", ";") -/
theorem local_balanced (cfg : BalCfg) (k j : Int) (c : String) (hs : balShape cfg.recipe = some (k, c, j)) (s : Text)
    (st : Span) (out : Text) (st' : Span) (h : (balanced cfg).transform s st = (.ok, out, st')) :
    ∃ a b, LocalEdit s out a b c.toList :=
  ⟨_, _, (balLoop_ok cfg s _ st out st' h).1.trans (balShape_eval cfg.recipe k j c hs s _ _)⟩
theorem balanced_recipes_shaped :
    Gen.balancedCfg.all (fun x => (balShape x.2.2.2.2).isSome || onlyShape x.2.2.2.2) = true := P.balanced_recipes_shaped

/-! line-deleting passes yield a proper subsequence made of whole lines -/
theorem readlines_lossless (s : Text) : (splitLines s).flatten = s := splitLines_flatten s
theorem lines_candidate (s : Text) (st : BS) (h : st.Inv) (hn : st.instances = (splitLines s).length) :
    let out := (linesPass.transform s st).2.1
    out.Sublist s ∧ out ≠ s := by
  have hlt := h.index_lt_end
  have hend : st.end_ ≤ (splitLines s).length := hn ▸ st.end_le
  refine lines_removed s _ (cut_sublist _ (Nat.le_of_lt hlt)) ?_
  rw [cut_length _ _ _ (Nat.le_of_lt hlt) hend]
  omega

/-- LineMarkersPass: for a well-formed cursor over the marker lines of the file, a candidate is the file minus exactly
    `end − index ≥ 1` whole lines the marker pattern matches; every line it does not match stays, in order -/
theorem line_markers_candidate (s : Text) (st : BS) (h : st.Inv) (hn : st.instances = markerCount Gen.lineMarkersRx s) :
    let kept := dropMarkers Gen.lineMarkersRx st.index st.end_ (splitLines s) 0
    let out := (lineMarkers.transform s st).2.1
    out = kept.flatten ∧ out.Sublist s ∧ out ≠ s ∧
    kept.filter (fun l => !lineSearches Gen.lineMarkersRx l) = (splitLines s).filter (fun l => !lineSearches Gen.lineMarkersRx l) ∧
    kept.length + (st.end_ - st.index) = (splitLines s).length :=
  Cvise.P.line_markers_candidate s st h hn

theorem blank_candidate (s : Text) (id : Nat) (out : Text) (h : blankOne s id = some out) : out.Sublist s ∧ out ≠ s := by
  unfold blankOne at h
  simp only at h
  split at h
  · cases h
  · rename_i hne
    cases h
    have := List.length_filter_le (fun l => !lineMatches id l) (splitLines s)
    exact lines_removed s _ List.filter_sublist (by omega)

theorem includes_candidate (s : Text) (st : Nat) (out : Text) (st' : Nat)
    (h : includes.transform s st = (.ok, out, st')) : out.Sublist s ∧ out ≠ s := P.includes_candidate s st out st' h

/-- every single line is eventually offered: a test that accepts exactly "the file minus line j" gets that candidate —
    the run cannot come back with nothing accepted (from C06's `no_accept_no_single`) -/
theorem single_line_offered {α : Type} [DecidableEq α] (l : List α) (j : Nat) (hj : j < l.length) (fuel : Nat) (r : List α)
    (h : start (fun c => decide (c = l.eraseIdx j)) fuel l = some r) : r.length ≠ l.length := by
  intro hlen
  have := Cvise.no_accept_no_single _ l fuel r h hlen j hj
  simp at this

/-- **balanced: every instance is eventually offered when all candidates are rejected** (arguments without a prefix
    expression, i.e. all but `curly3`): for every genuinely balanced group `[a, b)` of the input whose edit changes the
    text, the all-reject enumeration of length > |s| produces exactly that group's candidate -/
theorem balanced_offers_all (cfg : BalCfg) (hp : cfg.pre = none) (s : Text) (a b : Nat) (hb : Bal cfg.o cfg.c s a b)
    (hch : cfg.recipe.eval s [a, b] ≠ s) (n : Nat) (hn : s.length < n) :
    (PR.ok, cfg.recipe.eval s [a, b]) ∈ (runHistory (balanced cfg) (List.replicate n false) s ((balanced cfg).new s) []).1 :=
  P.balanced_offers_all cfg hp s a b hb hch n hn

/-- balanced, deleting arguments (all but `parens-to-zero` and `curly2`): the candidate is a proper subsequence of the input,
    for every cursor the search can return (a span of ≥ 2 characters inside the text) -/
theorem balanced_deletion_sublist (cfg : BalCfg) (hd : deletingShape cfg.recipe = true) (s : Text) (st : M.Span) (hI : BalI s st)
    (out : Text) (st' : M.Span) (h : (balanced cfg).transform s st = (.ok, out, st')) : out.Sublist s ∧ out ≠ s :=
  P.balanced_deletion_sublist cfg hd s st hI out st' h
theorem balanced_deleting_args :
    (Gen.balancedCfg.filter (fun x => !deletingShape x.2.2.2.2)).map (·.1) = ["parens-to-zero", "curly2"] := P.balanced_deleting_args
/-- the hypothesis `BalI` holds for everything `new` / `advance` / `advance_on_success` return -/
theorem balanced_cursors_wellformed (cfg : BalCfg) (s : Text) (pos : Int) (st : M.Span) (h : balFind cfg s pos = some st) : BalI s st :=
  (balFind_span cfg s pos st h).2

/-- ternary: a produced candidate is a proper subsequence of the input (one operand kept), for every cursor the search
    can return (`TernI`: a sequence match of the seven parts; `ternary_cursors_wellformed`) -/
theorem ternary_sublist (arg : String) (harg : arg = "b" ∨ arg = "c") (s : Text) (st : TernSt) (hI : TernI s st)
    (out : Text) (st' : TernSt) (h : (ternary arg).transform s st = (.ok, out, st')) : out.Sublist s ∧ out ≠ s :=
  P.ternary_sublist arg harg s st hI out st' h
theorem ternary_cursors_wellformed (s : Text) (pos : Int) (st : TernSt) (h : ternSearch s pos = some st) : TernI s st :=
  (ternSearch_spec s pos st h).2

/-- comments: a produced candidate is the input with the matched comments deleted — a proper subsequence (every shipped
    substitution has the empty replacement: `comments_subs_delete`, regenerated; `finditer` spans are in order and disjoint) -/
theorem comments_candidate (s : Text) (st : Nat) (out : Text) (st' : Nat)
    (h : comments.transform s st = (.ok, out, st')) : out.Sublist s ∧ out ≠ s := P.comments_candidate s _ st out st' h

/-- all shipped arguments but one have no prefix expression -/
theorem balanced_prefix_free : (Gen.balancedCfg.filter (fun x => x.2.2.2.1.isSome)).map (·.1) = ["curly3"] := by decide +kernel

end Cvise.C07
