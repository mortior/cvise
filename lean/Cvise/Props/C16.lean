import Cvise.Proofs.DriverCounters
/-!
# C16 — run limits are honoured (decision logic in the L1/L2 model)
-/
namespace Cvise.C16
open Cvise Cvise.D
variable {C σ : Type} [DecidableEq C]

/-- no accepted step shrinks the file by more than `--max-improvement` -/
theorem step_improvement_le (cfg : Cfg) (size : C → Nat) (cur : C) (e : EnvRes C σ) (m : Int)
    (hm : cfg.maxImp = some m) (h : isAccept cfg size cur e = true) : (size cur : Int) - size e.cand ≤ m :=
  ((isAccept_iff cfg size cur e).mp h).2.2.2 m hm

/-- a limit `n ≥ 1` stops the pass on that file as soon as `n` changes were accepted -/
theorem limit_stops (n succ : Nat) (hn : 1 ≤ n) (hs : n ≤ succ) : limitHit (some n) succ = true := by
  unfold limitHit
  simp [show n ≠ 0 by omega, hs]

/-- … and does not stop it before -/
theorem limit_not_before (n succ : Nat) (hs : succ < n) : limitHit (some n) succ = false := by
  unfold limitHit
  simp; omega

/-- boundary value 0 (finding F9): Python truthiness makes a limit of 0 mean "no limit" -/
theorem limit_zero_is_unlimited (succ : Nat) : limitHit (some 0) succ = false := by
  unfold limitHit; simp

/-- **a pass that only produces rejected candidates is abandoned after the give-up limit unless --no-give-up**: a
    candidate past the limit whose test was run and failed, or whose helper said anything but OK, ends the round (QUIT,
    or a reported pass bug) — it is never just ignored.  (An OK candidate whose test *passes* but which is unchanged or
    too large an improvement is ignored, not rejected: that branch has no give-up test — noted in DESIGN.md.) -/
theorem giveup_abandons (cfg : Cfg) (hg : cfg.noGiveUp = false) (size : C → Nat) (cur : C) (e : EnvRes C σ) (g : Side C) (gu : Bool)
    (ho : e.order > cfg.giveup)
    (hrej : e.pr ≠ .ok ∨ ∃ n, n ≠ 0 ∧ e.exit = some (.code n)) :
    (check cfg size cur e g gu).1 = .quit ∨ ∃ err, (check cfg size cur e g gu).1 = .raise err := by
  have h0 : ¬ (e.pr = .ok ∧ e.exit = some (.code 0)) := by
    rintro ⟨h1, h2⟩
    rcases hrej with h | ⟨n, hn, hx⟩
    · exact h h1
    · rw [h2] at hx; cases hx; exact hn rfl
  have gv : ∀ (g1 : Side C) m, (giveUp cfg e.order gu g1 m).1 = .quit ∨ ∃ err, (giveUp cfg e.order gu g1 m).1 = .raise err := by
    intro g1 m
    rcases giveUp_cases cfg e.order gu g1 m with ⟨_, h | h⟩ | h
    · rw [hg] at h; cases h
    · omega
    · exact h.1
  -- every branch of the rejected half ends in QUIT, a raise, or the give-up tail
  rw [check_reject cfg size cur e g gu h0]
  split
  · split
    · exact gv _ _
    · exact .inr ⟨_, rfl⟩
  · exact .inl rfl
  · split
    · split <;> simp
    · exact gv _ _
  · exact gv _ _

/-- … and with --no-give-up it is not: the same candidate is ignored (the enumeration goes on) -/
example : (check ({ noGiveUp := true, giveup := 3 } : Cfg) (fun (c : Nat) => c) 5
    ({ order := 9, pr := .invalid, cand := 5, st := (), exit := none } : EnvRes Nat Unit) {} false).1 = .ignore := by decide
example : (check ({ giveup := 3 } : Cfg) (fun (c : Nat) => c) 5
    ({ order := 9, pr := .invalid, cand := 5, st := (), exit := none } : EnvRes Nat Unit) {} false).1 = .quit := by decide

/-- **a pass run accepts at most `--skip-after-n-transforms` (and at most its own `max-transforms`) changes per test
    case**: whatever the schedule, the faults and the pass, `new` + all rounds on one file append at most `n` accepted steps
    to the log, for every limit `n ≥ 1` in force (for `n = 0` see `limit_zero_is_unlimited`, finding F9) -/
theorem accepts_at_most_limit [Inhabited σ] [Inhabited C] (cfg : Cfg) (W : World C) (dn : Sched) (P : PassI C σ)
    (k fuel rid : Nat) (x : St C) (before : C) (n : Nat) (hn : 1 ≤ n) (hl : cfg.skipN = some n ∨ P.maxT = some n) :
    (commits (LRes.st' (newLoop cfg W dn P k fuel rid x before)).side.log).length ≤ (commits x.side.log).length + n := by
  rw [LRes.st'_eq]
  unfold newLoop
  have hs := (fmtStep_frame W P x k before).1
  split
  · simp only [LRes.st]; rw [hs]; omega
  · split
    · simp only [LRes.st]; rw [hs]; omega
    · rename_i s _
      have := fileLoop_commits_le cfg W dn P k (W.size before) n hl fuel rid s 0 (fmtStep W P x k before).1 (by omega)
      rw [hs] at this
      simpa using this

section gate
variable [Inhabited σ] [Inhabited C]

/-- **passes before `--start-with-pass` are not run**: while the option is pending, running any list of passes none of
    which is the named one (or whose named entry lacks its prerequisites, `avail`) changes *nothing* — the files, the replay
    table, the statistics, the log (no candidate started, no commit, no replay) and even the round counter are what they
    were, and the option stays pending.  For every configuration, test, schedule and pass behaviour. -/
theorem start_gate_skips (cfg : Cfg) (W : World C) (dn : Sched) (orderOf : List C → List Nat) (fuel : Nat) (avail : PassI C σ → Bool)
    (n : Nat) (ps : List (PassI C σ)) (x : St C) (rid : Nat) (h : NoneNamed avail n ps) :
    runPassesG cfg W dn orderOf fuel avail ps (.inl (x, rid), some n) = (.inl (x, rid), some n) :=
  (List.append_nil ps ▸ runPassesG_prefix cfg W dn orderOf fuel avail n [] x rid ps h :)

/-- … the same for the main loop, however many rounds it may take -/
theorem start_gate_skips_main (cfg : Cfg) (W : World C) (dn : Sched) (orderOf : List C → List Nat) (fuel : Nat) (avail : PassI C σ → Bool)
    (n : Nat) (ps : List (PassI C σ)) (h : NoneNamed avail n ps) (rounds : Nat) (x : St C) (rid : Nat) :
    mainLoopG cfg W dn orderOf fuel avail ps rounds (.inl (x, rid), some n) = (.inl (x, rid), some n) := by
  cases rounds with
  | zero => rfl
  | succ r =>
    simp only [mainLoopG]
    rw [start_gate_skips cfg W dn orderOf fuel avail n ps x rid h]
    simp

/-- **the option clears exactly at the first pass with the named key** (whose prerequisites are there): everything in
    front of it is skipped, it and everything after it run as in a run without the option -/
theorem start_gate_clears_at_named (cfg : Cfg) (W : World C) (dn : Sched) (orderOf : List C → List Nat) (fuel : Nat)
    (avail : PassI C σ → Bool) (n : Nat) (pre post : List (PassI C σ)) (P : PassI C σ) (x : St C) (rid : Nat)
    (hpre : NoneNamed avail n pre) (ha : avail P = true) (hk : P.key = n) :
    runPassesG cfg W dn orderOf fuel avail (pre ++ P :: post) (.inl (x, rid), some n) =
      (runPasses cfg W dn orderOf fuel (P :: post.filter avail) (.inl (x, rid)), none) := by
  rw [runPassesG_prefix cfg W dn orderOf fuel avail n _ x rid pre hpre]
  simp only [runPassesG, ha, if_true, runPassG, hk, runPasses]
  exact runPassesG_none cfg W dn orderOf fuel avail post _

/-- whole reductions, named pass in the first group: the reduction is the plain one that starts at the named pass -/
theorem reduce_starts_at_named_first (cfg : Cfg) (W : World C) (dn : Sched) (orderOf : List C → List Nat) (fuel : Nat)
    (avail : PassI C σ → Bool) (n : Nat) (pre post main last : List (PassI C σ)) (P : PassI C σ) (x : St C)
    (hpre : NoneNamed avail n pre) (ha : avail P = true) (hk : P.key = n) :
    reduceG cfg W dn orderOf fuel avail false (pre ++ P :: post) main last x (some n) =
      (reduce cfg W dn orderOf fuel (P :: post.filter avail) (main.filter avail) (last.filter avail) x, none) := by
  simp only [reduceG, reduce, Bool.false_eq_true, if_false]
  rw [start_gate_clears_at_named cfg W dn orderOf fuel avail n pre post P x 0 hpre ha hk, mainLoopG_none, runPassesG_none]

/-- named pass in the last group only: the first and main groups do nothing, the last group runs from the named pass on -/
theorem reduce_starts_at_named_last (cfg : Cfg) (W : World C) (dn : Sched) (orderOf : List C → List Nat) (fuel : Nat)
    (avail : PassI C σ → Bool) (n : Nat) (first main pre post : List (PassI C σ)) (P : PassI C σ) (x : St C)
    (hf : NoneNamed avail n first) (hm : NoneNamed avail n main)
    (hpre : NoneNamed avail n pre) (ha : avail P = true) (hk : P.key = n) :
    reduceG cfg W dn orderOf fuel avail false first main (pre ++ P :: post) x (some n) =
      (runPasses cfg W dn orderOf fuel (P :: post.filter avail) (.inl (x, 0)), none) := by
  simp only [reduceG, Bool.false_eq_true, if_false]
  rw [start_gate_skips cfg W dn orderOf fuel avail n first x 0 hf, start_gate_skips_main cfg W dn orderOf fuel avail n main hm,
    start_gate_clears_at_named cfg W dn orderOf fuel avail n pre post P x 0 hpre ha hk]

/-- a name that no runnable pass carries (e.g. the named pass lacks its external program): **nothing** runs -/
theorem reduce_named_absent (cfg : Cfg) (W : World C) (dn : Sched) (orderOf : List C → List Nat) (fuel : Nat)
    (avail : PassI C σ → Bool) (n : Nat) (skip : Bool) (first main last : List (PassI C σ)) (x : St C)
    (hf : NoneNamed avail n first) (hm : NoneNamed avail n main) (hl : NoneNamed avail n last) :
    reduceG cfg W dn orderOf fuel avail skip first main last x (some n) = (.inl (x, 0), some n) := by
  cases skip
  · simp only [reduceG, Bool.false_eq_true, if_false]
    rw [start_gate_skips cfg W dn orderOf fuel avail n first x 0 hf, start_gate_skips_main cfg W dn orderOf fuel avail n main hm,
      start_gate_skips cfg W dn orderOf fuel avail n last x 0 hl]
  · simp only [reduceG, if_true]
    rw [start_gate_skips_main cfg W dn orderOf fuel avail n main hm, start_gate_skips cfg W dn orderOf fuel avail n last x 0 hl]

/-- named pass in the main group: the first round of the main loop runs from the named pass on; if it made progress
    the later rounds run the whole group -/
theorem main_loop_starts_at_named (cfg : Cfg) (W : World C) (dn : Sched) (orderOf : List C → List Nat) (fuel : Nat)
    (avail : PassI C σ → Bool) (n : Nat) (pre post : List (PassI C σ)) (P : PassI C σ) (x : St C) (rid rounds : Nat)
    (hpre : NoneNamed avail n pre) (ha : avail P = true) (hk : P.key = n) (h0 : totalSize W.size x.disk ≠ 0) :
    mainLoopG cfg W dn orderOf fuel avail (pre ++ P :: post) (rounds + 1) (.inl (x, rid), some n) =
      (match runPasses cfg W dn orderOf fuel (P :: post.filter avail) (.inl (x, rid)) with
       | .inr e => .inr e
       | .inl (y, rid') =>
         if totalSize W.size y.disk ≥ totalSize W.size x.disk then .inl (y, rid')
         else mainLoop cfg W dn orderOf fuel ((pre ++ P :: post).filter avail) rounds (.inl (y, rid')), none) := by
  simp only [mainLoopG, h0, if_false]
  rw [start_gate_clears_at_named cfg W dn orderOf fuel avail n pre post P x rid hpre ha hk]
  generalize runPasses cfg W dn orderOf fuel (P :: post.filter avail) (.inl (x, rid)) = r
  cases r with
  | inr e => rfl
  | inl yr =>
    simp only
    split
    · rfl
    · exact mainLoopG_none cfg W dn orderOf fuel avail _ rounds _

/-- without the option the gated driver is the plain driver (over the passes whose prerequisites are there), so every
    theorem about `D.reduce` speaks about it -/
theorem no_option_is_plain_reduce (cfg : Cfg) (W : World C) (dn : Sched) (orderOf : List C → List Nat) (fuel : Nat)
    (avail : PassI C σ → Bool) (first main last : List (PassI C σ)) (x : St C) :
    reduceG cfg W dn orderOf fuel avail false first main last x none =
      (reduce cfg W dn orderOf fuel (first.filter avail) (main.filter avail) (last.filter avail) x, none) :=
  reduceG_none cfg W dn orderOf fuel avail first main last x

/-- non-vacuity: a two-pass first group, option naming the second pass; the first pass (which would empty the file) is
    skipped, the second one runs -/
def gA : PassI Nat Nat where
  key := 1
  maxT := none
  new := fun _ => some 0
  advance := fun _ _ => none
  aos := fun _ _ => none
  transform := fun _ s => (.ok, 0, s)
def gB : PassI Nat Nat where
  key := 2
  maxT := none
  new := fun _ => some 0
  advance := fun _ _ => none
  aos := fun _ _ => none
  transform := fun c s => (.ok, c - 1, s)
def gW : World Nat where
  size := fun c => c
  test := fun j => if j = [4] then .code 0 else .code 1
  fault := fun _ _ => none
example : (LRes.st' (reduceG {} gW (fun _ _ _ => true) (fun _ => [0]) 5 (fun _ => true) false [gA, gB] [] [] { disk := [5] } (some 2)).1).disk = [4] := by
  decide
example : NoneNamed (fun _ => true) 2 [gA] := by intro P hP _; simp at hP; subst hP; decide

end gate

end Cvise.C16
