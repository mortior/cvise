import Cvise.Model.Clex
import Cvise.Proofs.ClexModes
import Cvise.Gen.Tools
/-!
# C18 — the clex helper never crashes and edits tokens as specified (mode functions of driver.c over a token array)
-/
namespace Cvise.C18
open Cvise Cvise.Clex

/-- the modes that scan with a plain `for` over the array can only exit with one of the two protocol codes -/
theorem exit_codes (b : Bool) (m : Mode) (hm : m ≠ .define) (idx : Nat) (ts : List Tok) :
    (run b m idx ts).exit = .ok ∨ (run b m idx ts).exit = .stop := by
  cases m with
  | print => left; rfl
  | rename => simp only [run, renameToks]; split <;> simp
  | define => exact absurd rfl hm
  | _ =>
    simp only [run_deleteString, run_shortenString, run_xString, run_rmToks, run_rmTokPattern]
    exact ofFlag_exit _

/-- `print`: the output is the concatenation of the tokens (block comments and line continuations produce no token) -/
theorem print_spec (b : Bool) (ts : List Tok) : run b .print 0 ts = ⟨.ok, ts.flatMap (·.str)⟩ := rfl

/-- token-removal: the output is the input token sequence with some tokens dropped, nothing added or reordered -/
theorem rmToks_output_sublist (b : Bool) (n idx : Nat) (ts : List Tok) :
    ∃ kept : List Tok, kept.Sublist ts ∧ (run b (.rmToks n) idx ts).out = kept.flatMap (·.str) := by
  obtain ⟨kept, h1, -, h3⟩ := rmToksGo_keeps n idx ts 0 false false []
  exact ⟨kept, h1, h3⟩

/-- for every token array the set of indices that produce output in an `rm-toks-n` mode is the prefix `0 .. k-1`
    (k = number of non-blank tokens): STOP is a suffix of the enumeration, which is what C02's contract needs -/
theorem rmToks_prefix (b : Bool) (n idx : Nat) (ts : List Tok) :
    (run b (.rmToks n) idx ts).exit = .ok ↔ idx < nonBlank ts := by
  rw [run_rmToks, ofFlag_ok]
  simp [rmToksGo_fst]

/-- `rm-tok-pattern-n`: the output is the input token sequence with some tokens dropped — nothing is added, changed or
    reordered — and blank tokens (white space, newlines) are never dropped -/
theorem rmTokPattern_output_sublist (b : Bool) (n idx : Nat) (ts : List Tok) :
    ∃ kept : List Tok, kept.Sublist ts ∧ (∀ t ∈ ts, blank t = true → t ∈ kept) ∧ (run b (.rmTokPattern n) idx ts).out = concat kept :=
  rmPatGo_keeps ..

/-- `rm-tok-pattern-n` (n ≥ 1) says OK exactly for the indices below `2^(n-1) ·` (number of non-blank tokens): index
    `idx` addresses window position `idx / 2^(n-1)`, whose first token is always deleted.  The OK indices are a prefix. -/
theorem rmTokPattern_prefix (b : Bool) (n idx : Nat) (hn : 1 ≤ n) (ts : List Tok) :
    (run b (.rmTokPattern n) idx ts).exit = .ok ↔ idx / 2 ^ (n - 1) < nonBlank ts := by
  rw [run_rmTokPattern, ofFlag_ok]
  -- the pattern selected by `idx` has its lowest bit set
  exact rmPatGo_ok n _ hn ts 0 _ [] (Nat.zero_le _) (by omega)

/-- `delete-string`: OK exactly when the `idx`-th string literal other than `""` exists; then the output is the input
    with exactly that one token replaced by `""`; on STOP the output is the input -/
theorem deleteString_spec (b : Bool) (idx : Nat) (ts : List Tok) :
    ((run b .deleteString idx ts).exit = .ok ↔ idx < fullStrings ts) ∧
    ((run b .deleteString idx ts).exit = .stop → (run b .deleteString idx ts).out = concat ts) ∧
    ((run b .deleteString idx ts).exit = .ok → ∃ pre t post, ts = pre ++ t :: post ∧ fullString t = true ∧ fullStrings pre = idx ∧
      (run b .deleteString idx ts).out = concat pre ++ emptyStr ++ concat post) := by
  rw [run_deleteString, ofFlag_ok, ofFlag_stop]
  exact delStrGo_spec idx ts 0 [] (Nat.zero_le _)

/-- `shorten-string`: OK exactly when `idx` addresses a character between the quotes of some string literal; the output
    is then exactly one character shorter than the input; on STOP the output is the input -/
theorem shortenString_spec (b : Bool) (idx : Nat) (ts : List Tok) :
    ((run b .shortenString idx ts).exit = .ok ↔ idx < stringChars ts) ∧
    ((run b .shortenString idx ts).exit = .stop → (run b .shortenString idx ts).out = concat ts) ∧
    ((run b .shortenString idx ts).exit = .ok → (run b .shortenString idx ts).out.length + 1 = (concat ts).length) := by
  rw [run_shortenString, ofFlag_ok, ofFlag_stop]
  exact shortenGo_spec ts idx []

/-- `x-string` never changes the length of the text -/
theorem xString_length (b : Bool) (idx : Nat) (ts : List Tok) : (run b .xString idx ts).out.length = (concat ts).length :=
  xStrGo_length idx ts 0 false []

/-- for these modes the OK indices form a prefix `0 … k-1` of the naturals (STOP is a suffix of the enumeration) -/
theorem ok_indices_are_a_prefix (b : Bool) (ts : List Tok) (i j : Nat) (hij : i ≤ j) :
    ((run b .deleteString j ts).exit = .ok → (run b .deleteString i ts).exit = .ok) ∧
    ((run b .shortenString j ts).exit = .ok → (run b .shortenString i ts).exit = .ok) ∧
    (∀ n, (run b (.rmToks n) j ts).exit = .ok → (run b (.rmToks n) i ts).exit = .ok) ∧
    (∀ n, 1 ≤ n → (run b (.rmTokPattern n) j ts).exit = .ok → (run b (.rmTokPattern n) i ts).exit = .ok) := by
  refine ⟨?_, ?_, ?_, ?_⟩
  · rw [(deleteString_spec b j ts).1, (deleteString_spec b i ts).1]; omega
  · rw [(shortenString_spec b j ts).1, (shortenString_spec b i ts).1]; omega
  · intro n; rw [rmToks_prefix, rmToks_prefix]; omega
  · intro n hn; rw [rmTokPattern_prefix b n j hn, rmTokPattern_prefix b n i hn]
    intro h
    exact Nat.lt_of_le_of_lt (Nat.div_le_div_right hij) h

/-- `rename-toks`: OK exactly for the indices below the number of distinct renameable identifiers (a prefix); then
    **every** occurrence of that one identifier, as an identifier token, is replaced by the one new name and nothing else
    changes; on STOP nothing is printed -/
theorem rename_spec (b : Bool) (idx : Nat) (ts : List Tok) :
    let newname := findUnused ts (ts.length + 2) ['a']
    let index := ((ts.filter fun t => t.kind = .ident && shouldRename t.str newname).map (·.str)).eraseDups
    ((run b .rename idx ts).exit = .ok ↔ idx < index.length) ∧
    ((run b .rename idx ts).exit = .ok → ∃ target, index[idx]? = some target ∧
      (run b .rename idx ts).out = ts.flatMap fun t => if t.kind = .ident ∧ t.str = target then newname else t.str) ∧
    ((run b .rename idx ts).exit = .stop → (run b .rename idx ts).out = []) := by
  intro newname index
  simp only [run, renameToks]
  cases h : index[idx]? with
  | none =>
    have hlen : ¬ idx < index.length := Nat.not_lt.mpr (List.getElem?_eq_none_iff.mp h)
    exact ⟨by simp [hlen], by simp, by simp⟩
  | some target =>
    have hlen : idx < index.length := (List.getElem?_eq_some_iff.mp h).1
    refine ⟨by simp [hlen], fun _ => ⟨target, rfl, ?_⟩, by simp⟩
    -- an occurrence of the target as an identifier token is renameable, because the target came from such a token
    have hsr : shouldRename target newname = true := by
      have : target ∈ (ts.filter fun t => t.kind = .ident && shouldRename t.str newname).map (·.str) := by
        simpa [index] using List.mem_eraseDups.mp (List.mem_of_getElem? h)
      simp only [List.mem_map, List.mem_filter] at this
      obtain ⟨t, ⟨_, ht⟩, rfl⟩ := this
      simp only [Bool.and_eq_true, decide_eq_true_eq] at ht
      exact ht.2
    refine congrArg List.flatten (List.map_congr_left fun t _ => ?_)
    by_cases hk : t.kind = .ident
    · by_cases hs : t.str = target
      · have hsr' : shouldRename target (findUnused ts (ts.length + 2) ['a']) = true := hsr
        simp [hk, hs, hsr']
        rfl
      · simp [hk, hs]
    · simp [hk]

/-- non-vacuity: `"ab" "" "c"`, delete-string 1 replaces the third token; shorten-string 1 drops the `b` -/
example : run true .deleteString 1 [⟨.string, "\"ab\"".toList⟩, ⟨.string, "\"\"".toList⟩, ⟨.string, "\"c\"".toList⟩] =
    ⟨.ok, "\"ab\"\"\"\"\"".toList⟩ := by decide +kernel
example : run true .shortenString 1 [⟨.string, "\"ab\"".toList⟩] = ⟨.ok, "\"a\"".toList⟩ := by decide +kernel
example : run true (.rmTokPattern 2) 1 [⟨.ident, ['a']⟩, ⟨.ws, [' ']⟩, ⟨.ident, ['b']⟩, ⟨.ident, ['c']⟩] = ⟨.ok, " c".toList⟩ := by decide +kernel

theorem skipWs_bounded (ts : Array Tok) : ∀ (fuel i : Nat), skipWs true ts fuel i ≠ none
  | 0, _ => nofun
  | fuel + 1, i => by
    rw [skipWs]
    split
    · nofun
    · split
      · exact skipWs_bounded ts fuel _
      · nofun

theorem findNewline_bounded (ts : Array Tok) : ∀ (fuel i : Nat), findNewline true ts fuel i ≠ none
  | 0, _ => nofun
  | fuel + 1, i => by
    rw [findNewline]
    split
    · nofun
    · split
      · nofun
      · exact findNewline_bounded ts fuel _

theorem replaceMacro_bounded (ts : Array Tok) (i : Nat) (h : ts[i]?.isSome = true) : (replaceMacro true ts i).exit = .ok := by
  unfold replaceMacro
  split
  · simp_all
  · split
    · exact absurd ‹_› (skipWs_bounded _ _ _)
    · split
      · exact absurd ‹_› (findNewline_bounded _ _ _)
      · rfl

/-- every `crash` of `defineGo` sits behind a scan that ran off the array or a read that was not tested: with the tests in
    place neither happens, and `replaceMacro` is reached only at an index that was read -/
theorem defineGo_in_bounds (arr : Array Tok) (idx fuel i found : Nat) :
    (defineGo true arr idx fuel i found).exit = .ok ∨ (defineGo true arr idx fuel i found).exit = .stop := by
  fun_induction defineGo true arr idx fuel i found <;> simp_all [skipWs_bounded, replaceMacro_bounded]

/-- with the index tested before every read, `define` exits with a protocol code on every token array and index:
    it never reads outside the array -/
theorem define_in_bounds (idx : Nat) (ts : List Tok) :
    (run true .define idx ts).exit = .ok ∨ (run true .define idx ts).exit = .stop :=
  defineGo_in_bounds ..

/-- `driver.c` tests the index first (regenerated from it) -/
theorem shipped_define_bounded : Gen.clexDefineBounded = true := by decide

/-- finding F4: without those tests, `clex define 0` on the one-token file `#` reads past the end of the array -/
theorem old_define_reads_out_of_bounds : (run false .define 0 [⟨.other, ['#']⟩]).exit = .crash := by decide

end Cvise.C18
