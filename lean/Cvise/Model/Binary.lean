import Cvise.Proofs.Loop
/-! `BinaryState` of `cvise/passes/abstract.py` (`BS`), what its operations do by the position of the cursor, and the
    one-candidate-at-a-time loop over a list of instances (`step`/`run`/`start`) that the lines-like passes are. -/
namespace Cvise

structure BS where
  index : Nat
  chunk : Nat
  instances : Nat
deriving Repr, DecidableEq

def BS.create (n : Nat) : Option BS := if n = 0 then none else some ⟨0, n, n⟩
def BS.end_ (s : BS) : Nat := min (s.index + s.chunk) s.instances
def BS.advance (s : BS) : Option BS :=
  let i := s.index + s.chunk
  if i ≥ s.instances then
    let c := s.chunk / 2
    if c < 1 then none else some ⟨0, c, s.instances⟩
  else some ⟨i, s.chunk, s.instances⟩
def BS.advanceOnSuccess (s : BS) (n : Nat) : Option BS :=
  if n = 0 then none else
  let s' : BS := { s with instances := n }
  if s'.index ≥ n then s'.advance else some s'

/-- the requests of one granularity when every candidate is rejected, as `(counter, to-counter)` pairs: follow `advance` until it
    wraps (index 0 again) or ends -/
def BS.level (s : BS) : Nat → List (Nat × Nat)
  | 0 => []
  | fuel + 1 => (s.index + 1, s.end_) :: (match s.advance with
      | some t => if t.index = 0 then [] else BS.level t fuel
      | none => [])

/-- the instances a request names, in order -/
def BS.expand (r : Nat × Nat) : List Nat := List.range' r.1 (r.2 + 1 - r.1)

def BS.Inv (s : BS) : Prop := s.index < s.instances ∧ 1 ≤ s.chunk

theorem BS.end_le (s : BS) : s.end_ ≤ s.instances := Nat.min_le_right ..

theorem BS.end_of_le {s : BS} (h : s.index + s.chunk ≤ s.instances) : s.end_ = s.index + s.chunk := Nat.min_eq_left h

theorem BS.end_of_ge {s : BS} (h : s.instances ≤ s.index + s.chunk) : s.end_ = s.instances := Nat.min_eq_right h

theorem BS.Inv.index_lt_end {s : BS} (h : s.Inv) : s.index < s.end_ := by
  have := h.1; have := h.2
  rcases Nat.le_total (s.index + s.chunk) s.instances with h' | h'
  · rw [BS.end_of_le h']; omega
  · rw [BS.end_of_ge h']; omega

theorem BS.advance_of_lt {s : BS} (h : s.index + s.chunk < s.instances) :
    s.advance = some ⟨s.index + s.chunk, s.chunk, s.instances⟩ := by
  simp only [BS.advance, Nat.not_le.mpr h, if_false]

theorem BS.advance_of_ge {s : BS} (h : s.instances ≤ s.index + s.chunk) :
    s.advance = if s.chunk / 2 < 1 then none else some ⟨0, s.chunk / 2, s.instances⟩ := by
  simp only [BS.advance, h, if_true]

theorem BS.aos_zero (s : BS) : s.advanceOnSuccess 0 = none := rfl

theorem BS.aos_of_lt {s : BS} {n : Nat} (h : s.index < n) : s.advanceOnSuccess n = some ⟨s.index, s.chunk, n⟩ := by
  simp only [BS.advanceOnSuccess, Nat.not_le.mpr h, if_false, show n ≠ 0 by omega]

theorem BS.aos_of_ge {s : BS} {n : Nat} (h0 : n ≠ 0) (h : n ≤ s.index) :
    s.advanceOnSuccess n = if s.chunk / 2 < 1 then none else some ⟨0, s.chunk / 2, n⟩ := by
  simp only [BS.advanceOnSuccess, h0, if_false, h, if_true]
  exact BS.advance_of_ge (s := ⟨s.index, s.chunk, n⟩) (by simp only; omega)

theorem BS.create_zero : BS.create 0 = none := rfl

theorem BS.create_of_ne {n : Nat} (h : n ≠ 0) : BS.create n = some ⟨0, n, n⟩ := by simp only [BS.create, h, if_false]

theorem BS.create_some {n : Nat} {s : BS} (h : BS.create n = some s) : n ≠ 0 ∧ s = ⟨0, n, n⟩ := by
  rcases Nat.eq_zero_or_pos n with rfl | h0
  · cases h
  · rw [BS.create_of_ne (Nat.ne_of_gt h0)] at h
    cases h
    exact ⟨Nat.ne_of_gt h0, rfl⟩

theorem BS.advance_inv {s t : BS} (h : s.Inv) (ht : s.advance = some t) :
    t.Inv ∧ t.instances = s.instances ∧
    ((t.chunk = s.chunk ∧ t.index = s.index + s.chunk) ∨ (t.chunk = s.chunk / 2 ∧ t.index = 0 ∧ s.index + s.chunk ≥ s.instances)) := by
  obtain ⟨h1, h2⟩ := h
  rcases Nat.lt_or_ge (s.index + s.chunk) s.instances with hlt | hge
  · rw [BS.advance_of_lt hlt] at ht
    cases ht
    exact ⟨⟨hlt, h2⟩, rfl, .inl ⟨rfl, rfl⟩⟩
  · rw [BS.advance_of_ge hge] at ht
    split at ht
    · cases ht
    · cases ht
      exact ⟨⟨by simp only; omega, by simp only; omega⟩, rfl, .inr ⟨rfl, rfl, hge⟩⟩

theorem BS.advance_none {s : BS} (h : s.Inv) (ht : s.advance = none) :
    s.chunk = 1 ∧ s.index + 1 ≥ s.instances := by
  obtain ⟨h1, h2⟩ := h
  rcases Nat.lt_or_ge (s.index + s.chunk) s.instances with hlt | hge
  · rw [BS.advance_of_lt hlt] at ht
    cases ht
  · rw [BS.advance_of_ge hge] at ht
    split at ht
    · omega
    · cases ht

theorem BS.aos_inv {s t : BS} {n : Nat} (h : s.Inv) (ht : s.advanceOnSuccess n = some t) :
    t.Inv ∧ t.instances = n ∧
    ((t.chunk = s.chunk ∧ t.index = s.index) ∨ (t.chunk = s.chunk / 2 ∧ t.index = 0 ∧ s.index ≥ n)) := by
  obtain ⟨h1, h2⟩ := h
  rcases Nat.lt_or_ge s.index n with hlt | hge
  · rw [BS.aos_of_lt hlt] at ht
    cases ht
    exact ⟨⟨hlt, h2⟩, rfl, .inl ⟨rfl, rfl⟩⟩
  · have h0 : n ≠ 0 := by
      intro h0
      rw [h0, BS.aos_zero] at ht
      cases ht
    rw [BS.aos_of_ge h0 hge] at ht
    split at ht
    · cases ht
    · cases ht
      exact ⟨⟨by simp only; omega, by simp only; omega⟩, rfl, .inr ⟨rfl, rfl, hge⟩⟩

theorem BS.aos_none {s : BS} {n : Nat} (h : s.Inv) (ht : s.advanceOnSuccess n = none) :
    n = 0 ∨ (s.chunk = 1 ∧ s.index ≥ n) := by
  obtain ⟨h1, h2⟩ := h
  rcases Nat.lt_or_ge s.index n with hlt | hge
  · rw [BS.aos_of_lt hlt] at ht
    cases ht
  · rcases Nat.eq_zero_or_pos n with h0 | h0
    · exact .inl h0
    · rw [BS.aos_of_ge (by omega) hge] at ht
      split at ht
      · exact .inr ⟨by omega, hge⟩
      · cases ht

theorem BS.level_of_ge {s : BS} (h : s.instances ≤ s.index + s.chunk) (fuel : Nat) :
    s.level (fuel + 1) = [(s.index + 1, s.end_)] := by
  rw [BS.level, BS.advance_of_ge h]
  by_cases hc : s.chunk / 2 < 1
  · rw [if_pos hc]
  · rw [if_neg hc]; rfl

theorem BS.level_of_lt {s : BS} (h : s.index + s.chunk < s.instances) (hc : 1 ≤ s.chunk) (fuel : Nat) :
    s.level (fuel + 1) = (s.index + 1, s.end_) :: (⟨s.index + s.chunk, s.chunk, s.instances⟩ : BS).level fuel := by
  rw [BS.level, BS.advance_of_lt h]
  simp only [show s.index + s.chunk ≠ 0 by omega, if_false]

theorem BS.expand_request (s : BS) : BS.expand (s.index + 1, s.end_) = List.range' (s.index + 1) (s.end_ - s.index) := by
  simp only [BS.expand, Nat.add_sub_add_right]

/-- remove [i, e) -/
def cut (l : List α) (i e : Nat) : List α := l.take i ++ l.drop e

theorem cut_length (l : List α) (i e : Nat) (h1 : i ≤ e) (h2 : e ≤ l.length) :
    (cut l i e).length = l.length - (e - i) := by
  rw [cut, List.length_append, List.length_take, List.length_drop, Nat.min_eq_left (Nat.le_trans h1 h2)]
  omega

theorem cut_sublist (l : List α) {i e : Nat} (h : i ≤ e) : (cut l i e).Sublist l := by
  have := (List.Sublist.refl (l.take i)).append (List.drop_sublist_drop_left l h)
  rwa [List.take_append_drop] at this

theorem cut_take (l : List α) {i : Nat} (e : Nat) (h : i ≤ l.length) : (cut l i e).take i = l.take i := by
  rw [cut, List.take_append_of_le_length (by rw [List.length_take]; omega), List.take_take, Nat.min_self]

theorem cut_succ (l : List α) (i : Nat) : cut l i (i + 1) = l.eraseIdx i := (List.eraseIdx_eq_take_drop_succ l i).symm

structure St (α) where
  items : List α
  st : BS

def St.Inv (x : St α) : Prop := x.st.instances = x.items.length ∧ x.st.Inv

def St.cand (x : St α) : List α := cut x.items x.st.index x.st.end_

/-- one candidate: returns next configuration or final items -/
def step (test : List α → Bool) (x : St α) : Sum (St α) (List α) :=
  if test x.cand then
    match x.st.advanceOnSuccess x.cand.length with
    | some s => .inl ⟨x.cand, s⟩
    | none => .inr x.cand
  else
    match x.st.advance with
    | some s => .inl ⟨x.items, s⟩
    | none => .inr x.items

def run (test : List α → Bool) : Nat → St α → Option (List α)
  | 0, _ => none
  | f+1, x => match step test x with
    | .inl y => run test f y
    | .inr r => some r

def start (test : List α → Bool) (fuel : Nat) (l : List α) : Option (List α) :=
  match BS.create l.length with
  | none => some l
  | some s => run test fuel ⟨l, s⟩

theorem St.Inv.index_lt {x : St α} (h : x.Inv) : x.st.index < x.items.length := h.1 ▸ h.2.1

theorem cand_length (x : St α) (h : x.Inv) : x.cand.length < x.items.length ∧
    x.cand.length = x.items.length - (x.st.end_ - x.st.index) := by
  have h1 := h.2.index_lt_end
  have h2 : x.st.end_ ≤ x.items.length := h.1 ▸ x.st.end_le
  have := cut_length x.items _ _ (Nat.le_of_lt h1) h2
  exact ⟨by rw [St.cand, this]; omega, this⟩

theorem cand_sublist (x : St α) (hx : x.Inv) : x.cand.Sublist x.items := cut_sublist _ (Nat.le_of_lt hx.2.index_lt_end)

theorem cand_take (x : St α) (h : x.Inv) : x.cand.take x.st.index = x.items.take x.st.index :=
  cut_take _ _ (Nat.le_of_lt h.index_lt)

theorem cand_single (x : St α) (h : x.Inv) (hc : x.st.chunk = 1) : x.cand = x.items.eraseIdx x.st.index := by
  have := h.2.1
  rw [St.cand, BS.end_of_le (by omega), hc, cut_succ]

def BS.realChunk (s : BS) : Nat := s.end_ - s.index

/-- executable variant of `run` that also records, per candidate, (index, end, accepted?) -/
def runTrace (test : List α → Bool) : Nat → St α → List (Nat × Nat × Bool) → Option (List α × List (Nat × Nat × Bool))
  | 0, _, _ => none
  | f+1, x, acc =>
    let acc' := acc ++ [(x.st.index, x.st.end_, test x.cand)]
    match step test x with
    | .inl y => runTrace test f y acc'
    | .inr r => some (r, acc')

def startTrace (test : List α → Bool) (fuel : Nat) (l : List α) : Option (List α × List (Nat × Nat × Bool)) :=
  match BS.create l.length with
  | none => some (l, [])
  | some s => runTrace test fuel ⟨l, s⟩ []

theorem run_eq_iter (test : List α → Bool) : run test = iter (step test) :=
  iter_unique (fun _ => rfl) fun n x => by
    rw [run]
    cases step test x <;> rfl

theorem startTrace_fst (test : List α → Bool) (fuel : Nat) (l : List α) :
    (startTrace test fuel l).map (·.1) = start test fuel l := by
  unfold startTrace start
  split
  · rfl
  · rw [run_eq_iter]
    refine trace_fst (obs := fun x => (x.st.index, x.st.end_, test x.cand)) (fun _ _ => rfl) (fun n x a => ?_) ..
    rw [runTrace]
    cases step test x <;> rfl

/-- the fuel `start` needs: `mu` of the initial configuration plus one -/
def startFuel (n : Nat) : Nat := n * (2 * n + 2) + n + n + 1

end Cvise
